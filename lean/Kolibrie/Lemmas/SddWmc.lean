import Kolibrie.Lemmas.SddSound
/-!
The weighted model count of the model equals the truth-table sum: facts about `ttWmc` alone (Shannon
expansion at a listed variable, constants, congruences, linearity in one weight pair), what the ordering
discipline `ordOk` says about a node, and the induction over the arena.
-/
namespace Kolibrie.Sdd

/-! ### the count of a handle, by the node it points at -/

theorem wmcW_node {m : Mgr} {i : Nat} {nd : Node} (hn : m.nodes[i]? = some nd) (pw nw : List Rat) :
    wmcW m pw nw i = wmcNode pw nw (wmcAll pw nw (m.nodes.take i)) nd := by
  rw [wmcW, wmcAll_eq_tbl, wmcAll_eq_tbl]; exact tbl_getD (wmcNode pw nw) 0 hn

theorem wmcW_of_ff {m : Mgr} {i : Nat} (hn : m.nodes[i]? = some Node.ff) (pw nw : List Rat) : wmcW m pw nw i = 0 :=
  wmcW_node hn pw nw

theorem wmcW_of_tt {m : Mgr} {i : Nat} (hn : m.nodes[i]? = some Node.tt) (pw nw : List Rat) : wmcW m pw nw i = 1 :=
  wmcW_node hn pw nw

theorem wmcW_ff {m : Mgr} (h : MInv m) (pw nw : List Rat) : wmcW m pw nw FALSE = 0 := wmcW_of_ff h.get_ff pw nw

theorem wmcW_tt {m : Mgr} (h : MInv m) (pw nw : List Rat) : wmcW m pw nw TRUE = 1 := wmcW_of_tt h.get_tt pw nw

theorem wmcW_lit {m : Mgr} {i v : Nat} {pol : Bool} (hn : m.nodes[i]? = some (Node.lit v pol)) (pw nw : List Rat) :
    wmcW m pw nw i = if pol then posOf pw v else negOf nw v :=
  wmcW_node hn pw nw

theorem wmcW_dec {m : Mgr} (h : MInv m) {i vt : Nat} {els : List Elem}
    (hn : m.nodes[i]? = some (Node.dec vt els)) (pw nw : List Rat) :
    wmcW m pw nw i = (els.map (fun e => wmcW m pw nw e.1 * wmcW m pw nw e.2)).sum := by
  have ht : ∀ j, j < i → (wmcAll pw nw (m.nodes.take i)).getD j 0 = wmcW m pw nw j := fun j hj =>
    tbl_take_getD (wmcNode pw nw) m.nodes 0 hj (Nat.le_of_lt (lt_of_getElem? hn))
  rw [wmcW_node hn]
  exact congrArg List.sum (List.map_congr_left fun e he => by
    rw [ht _ (h.closed i vt els hn e he).1, ht _ (h.closed i vt els hn e he).2])

/-! ### facts about the truth-table sum -/

theorem upd_same (σ : Asg) (v : Nat) (x : Bool) : upd σ v x v = x := if_pos rfl

theorem upd_ne (σ : Asg) {u v : Nat} (h : u ≠ v) (x : Bool) : upd σ v x u = σ u := if_neg h

theorem upd_comm (σ : Asg) {a b : Nat} (hab : a ≠ b) (x y : Bool) :
    upd (upd σ a x) b y = upd (upd σ b y) a x := by
  funext u
  unfold upd
  by_cases h1 : u = b
  · rw [if_pos h1, if_neg (h1 ▸ Ne.symm hab), if_pos h1]
  · rw [if_neg h1, if_neg h1]

theorem upd_idem (σ : Asg) (a : Nat) (x y : Bool) : upd (upd σ a x) a y = upd σ a y := by
  funext u; simp only [upd]; by_cases h : u = a <;> simp [h]

theorem ttWmc_congr_base (pw nw : Nat → Rat) {f g : Fn} (vars : List Nat) (σ σ' : Asg)
    (h : ∀ τ τ', (∀ u ∈ vars, τ u = τ' u) → (∀ u, u ∉ vars → τ u = σ u ∧ τ' u = σ' u) → f τ = g τ') :
    ttWmc pw nw vars σ f = ttWmc pw nw vars σ' g := by
  induction vars generalizing σ σ' with
  | nil => rw [ttWmc, ttWmc, h σ σ' nofun fun _ _ => ⟨rfl, rfl⟩]
  | cons v vs ih =>
    have key : ∀ b, ttWmc pw nw vs (upd σ v b) f = ttWmc pw nw vs (upd σ' v b) g := fun b =>
      ih _ _ fun τ τ' h1 h2 => h τ τ'
        (fun u hu => by
          by_cases huvs : u ∈ vs
          · exact h1 u huvs
          · rw [(h2 u huvs).1, (h2 u huvs).2, (List.mem_cons.1 hu).resolve_right huvs, upd_same, upd_same])
        (fun u hu => by
          rw [List.mem_cons, not_or] at hu
          rw [(h2 u hu.2).1, (h2 u hu.2).2, upd_ne _ hu.1, upd_ne _ hu.1]; exact ⟨rfl, rfl⟩)
    rw [ttWmc, ttWmc, key, key]

theorem ttWmc_congr_out (pw nw : Nat → Rat) {f g : Fn} (vars : List Nat) (σ : Asg)
    (h : ∀ τ, (∀ u, u ∉ vars → τ u = σ u) → f τ = g τ) : ttWmc pw nw vars σ f = ttWmc pw nw vars σ g :=
  ttWmc_congr_base pw nw vars σ σ fun τ τ' h1 h2 => by
    have : τ' = τ := funext fun u => by
      by_cases hu : u ∈ vars
      · exact (h1 u hu).symm
      · rw [(h2 u hu).1, (h2 u hu).2]
    rw [this]; exact h τ fun u hu => (h2 u hu).1

theorem ttWmc_congr (pw nw : Nat → Rat) (vars : List Nat) {f g : Fn} (h : ∀ σ, f σ = g σ) (σ : Asg) :
    ttWmc pw nw vars σ f = ttWmc pw nw vars σ g :=
  ttWmc_congr_out pw nw vars σ fun τ _ => h τ

theorem ttWmc_perm (pw nw : Nat → Rat) (f : Fn) {l l' : List Nat} (hp : l.Perm l') :
    ∀ σ, ttWmc pw nw l σ f = ttWmc pw nw l' σ f := by
  induction hp with
  | nil => exact fun _ => rfl
  | cons x _ ih => exact fun σ => by rw [ttWmc, ttWmc, ih, ih]
  | swap a b l =>
    intro σ
    by_cases hab : a = b
    · rw [hab]
    · simp only [ttWmc]
      rw [upd_comm σ (Ne.symm hab) true true, upd_comm σ (Ne.symm hab) true false,
        upd_comm σ (Ne.symm hab) false true, upd_comm σ (Ne.symm hab) false false]
      generalize ttWmc pw nw l _ f = A, ttWmc pw nw l _ f = B, ttWmc pw nw l _ f = C, ttWmc pw nw l _ f = D
      grind
  | trans _ _ ih1 ih2 => exact fun σ => (ih1 σ).trans (ih2 σ)

/-- Shannon expansion at a listed variable -/
theorem ttWmc_erase (pw nw : Nat → Rat) {vars : List Nat} {x : Nat} (hx : x ∈ vars) (σ : Asg) (f : Fn) :
    ttWmc pw nw vars σ f = pw x * ttWmc pw nw (vars.erase x) (upd σ x true) f +
      nw x * ttWmc pw nw (vars.erase x) (upd σ x false) f :=
  ttWmc_perm pw nw f (List.perm_cons_erase hx) σ

theorem ttWmc_const (pw nw : Nat → Rat) {f : Fn} (c : Bool) (h : ∀ τ, f τ = c) (vars : List Nat)
    (hn : c = true → ∀ u ∈ vars, pw u + nw u = 1) (σ : Asg) : ttWmc pw nw vars σ f = if c then 1 else 0 := by
  induction vars generalizing σ with
  | nil => rw [ttWmc, h σ]
  | cons v vs ih =>
    have ih := fun σ => ih (fun hc u hu => hn hc u (.tail _ hu)) σ
    rw [ttWmc, ih, ih]
    cases c
    · rw [if_neg Bool.false_ne_true, Rat.mul_zero, Rat.mul_zero, Rat.add_zero]
    · rw [if_pos rfl, Rat.mul_one, Rat.mul_one, hn rfl v (.head _)]

theorem ttWmc_false (pw nw : Nat → Rat) (vars : List Nat) {f : Fn} (h : ∀ σ, f σ = false) (σ : Asg) :
    ttWmc pw nw vars σ f = 0 :=
  ttWmc_const pw nw false h vars (fun hc => nomatch hc) σ

theorem ttWmc_true (pw nw : Nat → Rat) (vars : List Nat) {f : Fn} (h : ∀ σ, f σ = true)
    (hn : ∀ u ∈ vars, pw u + nw u = 1) (σ : Asg) : ttWmc pw nw vars σ f = 1 :=
  ttWmc_const pw nw true h vars (fun _ => hn) σ

/-- Shannon expansion of `x = b ∧ g` at the listed variable `x`: the slice `x ≠ b` is empty -/
theorem ttWmc_lit_and (pw nw : Nat → Rat) {vars : List Nat} (hnd : vars.Nodup) {x : Nat} (hx : x ∈ vars) (b : Bool)
    {f g : Fn} (hf : ∀ τ, f τ = ((τ x == b) && g τ)) (σ : Asg) :
    ttWmc pw nw vars σ f = (if b then pw x else nw x) * ttWmc pw nw (vars.erase x) (upd σ x b) g := by
  have hnot : x ∉ vars.erase x := fun hm => ((List.Nodup.mem_erase_iff hnd).1 hm).1 rfl
  have slice : ∀ (c : Bool) (g' : Fn), (∀ τ, ((c == b) && g τ) = g' τ) →
      ttWmc pw nw (vars.erase x) (upd σ x c) f = ttWmc pw nw (vars.erase x) (upd σ x c) g' := fun c _ hc =>
    ttWmc_congr_out pw nw _ _ fun τ hτ => by rw [hf, hτ x hnot, upd_same, hc]
  rw [ttWmc_erase pw nw hx]
  cases b
  · rw [slice true (fun _ => false) fun _ => rfl, slice false g fun _ => rfl, ttWmc_false _ _ _ (fun _ => rfl),
      Rat.mul_zero, Rat.zero_add]; rfl
  · rw [slice true g fun _ => rfl, slice false (fun _ => false) fun _ => rfl, ttWmc_false _ _ _ (fun _ => rfl),
      Rat.mul_zero, Rat.add_zero]; rfl

theorem ttWmc_add (pw nw : Nat → Rat) {f g : Fn} (h : ∀ τ, ¬(f τ = true ∧ g τ = true)) (vars : List Nat) (σ : Asg) :
    ttWmc pw nw vars σ (fun τ => f τ || g τ) = ttWmc pw nw vars σ f + ttWmc pw nw vars σ g := by
  induction vars generalizing σ with
  | nil =>
    rw [ttWmc, ttWmc, ttWmc]
    cases hf : f σ <;> cases hg : g σ
    · exact (Rat.add_zero _).symm
    · exact (Rat.zero_add _).symm
    · exact (Rat.add_zero _).symm
    · exact absurd ⟨hf, hg⟩ (h σ)
  | cons v vs ih =>
    rw [ttWmc, ttWmc, ttWmc, ih, ih, Rat.mul_add, Rat.mul_add]
    rw [Rat.add_assoc, Rat.add_assoc, Rat.add_left_comm (pw v * ttWmc pw nw vs (upd σ v true) g)]

def DepOn (f : Fn) (vars : List Nat) : Prop := ∀ σ σ', (∀ v ∈ vars, σ v = σ' v) → f σ = f σ'

theorem ttWmc_base (pw nw : Nat → Rat) (f : Fn) (vars : List Nat) (hd : DepOn f vars) (σ σ' : Asg) :
    ttWmc pw nw vars σ f = ttWmc pw nw vars σ' f :=
  ttWmc_congr_base pw nw vars σ σ' fun τ τ' h1 _ => hd τ τ' h1

theorem ttWmc_weights_congr {pw nw pw' nw' : Nat → Rat} (f : Fn) (vars : List Nat)
    (h : ∀ u ∈ vars, pw u = pw' u ∧ nw u = nw' u) (σ : Asg) :
    ttWmc pw nw vars σ f = ttWmc pw' nw' vars σ f := by
  induction vars generalizing σ with
  | nil => rfl
  | cons v vs ih =>
    have ih := fun σ => ih (fun u hu => h u (.tail _ hu)) σ
    rw [ttWmc, ttWmc, ih, ih, (h v (.head _)).1, (h v (.head _)).2]

theorem fupd_same (w : Nat → Rat) (v : Nat) (x : Rat) : fupd w v x v = x := if_pos rfl

theorem fupd_ne (w : Nat → Rat) {u v : Nat} (h : u ≠ v) (x : Rat) : fupd w v x u = w u := if_neg h

/-- the sum is linear in the weight pair `(a, c)` of a listed variable -/
theorem ttWmc_fupd (pw nw : Nat → Rat) {vars : List Nat} (hnd : vars.Nodup) {v : Nat} (hv : v ∈ vars) (a c : Rat)
    (σ : Asg) (f : Fn) : ttWmc (fupd pw v a) (fupd nw v c) vars σ f =
      a * ttWmc pw nw (vars.erase v) (upd σ v true) f + c * ttWmc pw nw (vars.erase v) (upd σ v false) f := by
  have hw : ∀ τ, ttWmc (fupd pw v a) (fupd nw v c) (vars.erase v) τ f = ttWmc pw nw (vars.erase v) τ f :=
    ttWmc_weights_congr f _ fun u hu =>
      have huv : u ≠ v := ((List.Nodup.mem_erase_iff hnd).1 hu).1
      ⟨fupd_ne pw huv a, fupd_ne nw huv c⟩
  rw [ttWmc_erase _ _ hv, hw, hw, fupd_same, fupd_same]

theorem getD_set_eq_fupd (l : List Rat) (v : Nat) (x d : Rat) (hv : v < l.length) :
    (fun u => (l.set v x).getD u d) = fupd (fun u => l.getD u d) v x := by
  funext u
  unfold fupd
  by_cases h : u = v
  · rw [if_pos h, h, List.getD_eq_getElem?_getD, List.getElem?_set_self hv]; rfl
  · rw [if_neg h, List.getD_eq_getElem?_getD, List.getElem?_set_ne (Ne.symm h)]
    exact List.getD_eq_getElem?_getD.symm

theorem posOf_setW (l : List Rat) (v : Nat) (x : Rat) (hv : v < l.length) : posOf (setW l v x) = fupd (posOf l) v x :=
  getD_set_eq_fupd l v x _ hv

theorem negOf_setW (l : List Rat) (v : Nat) (x : Rat) (hv : v < l.length) : negOf (setW l v x) = fupd (negOf l) v x :=
  getD_set_eq_fupd l v x _ hv

/-! ### what `ordOk` says about a node -/

theorem ordOk_node {m : Mgr} (h : ordOk m = true) {i : Nat} {nd : Node} (hn : m.nodes[i]? = some nd) :
    nodeOk m i nd = true := by
  have := List.all_eq_true.1 h i (List.mem_range.2 (lt_of_getElem? hn))
  rwa [node_of_getElem? hn] at this

theorem ordOk_lit {m : Mgr} (h : ordOk m = true) {i v : Nat} {pol : Bool}
    (hn : m.nodes[i]? = some (Node.lit v pol)) :
    ∃ p, alookup v m.var2vt = some p ∧ m.vnodes[p]? = some (VNode.leaf v) := by
  have := ordOk_node h hn
  unfold nodeOk at this; dsimp only at this
  cases hp : alookup v m.var2vt with
  | none => rw [hp] at this; cases this
  | some p => rw [hp] at this; exact ⟨p, rfl, of_decide_eq_true this⟩

theorem ordOk_dec {m : Mgr} (h : ordOk m = true) {i vt : Nat} {els : List Elem}
    (hn : m.nodes[i]? = some (Node.dec vt els)) :
    ∃ l r x, m.vnodes[vt]? = some (VNode.internal l r) ∧ l < vt ∧ m.vnodes[l]? = some (VNode.leaf x) ∧
      alookup x m.var2vt = some l ∧
      ∀ e ∈ els, primeOk m x e.1 = true ∧ subOk m l e.2 = true ∧ e.1 < i ∧ e.2 < i := by
  have := ordOk_node h hn
  unfold nodeOk at this; dsimp only at this
  cases hv : m.vnodes[vt]? with
  | none => rw [hv] at this; cases this
  | some vn =>
    rw [hv] at this
    cases vn with
    | leaf _ => cases this
    | internal l r =>
      dsimp only at this
      rw [Bool.and_eq_true, decide_eq_true_eq] at this
      cases hl : m.vnodes[l]? with
      | none => rw [hl] at this; cases this.2
      | some ln =>
        rw [hl] at this
        cases ln with
        | internal _ _ => cases this.2
        | leaf x =>
          obtain ⟨hlt, hx⟩ := this
          dsimp only at hx
          rw [Bool.and_eq_true, decide_eq_true_eq, List.all_eq_true] at hx
          refine ⟨l, r, x, rfl, hlt, hl, hx.1, fun e he => ?_⟩
          have := hx.2 e he
          simp only [Bool.and_eq_true, decide_eq_true_eq] at this
          exact ⟨this.1.1.1, this.1.1.2, this.1.2, this.2⟩

def Below (m : Mgr) (k : Nat) (i : Id) : Prop := ∀ p, vtreeOf m i = some p → p < k

theorem subOk_below {m : Mgr} {l : Nat} {s : Id} (h : subOk m l s = true) : Below m l s := by
  intro p hp
  unfold subOk at h
  unfold vtreeOf at hp h
  cases hn : node m s with
  | ff => rw [hn] at hp; cases hp
  | tt => rw [hn] at hp; cases hp
  | lit v pol => rw [hn] at hp h; dsimp only at hp h; rw [hp] at h; exact of_decide_eq_true h
  | dec vt els => rw [hn] at hp h; cases hp; exact of_decide_eq_true h

theorem below_top {m : Mgr} (ho : ordOk m = true) {i : Nat} (hi : i < m.nodes.length) :
    Below m m.vnodes.length i := by
  intro p hp
  have hget := getElem?_of_valid (m := m) hi
  unfold vtreeOf at hp
  cases hnode : node m i with
  | ff => rw [hnode] at hp; cases hp
  | tt => rw [hnode] at hp; cases hp
  | lit v pol =>
    rw [hnode] at hp hget
    obtain ⟨q, hq, hl⟩ := ordOk_lit ho hget
    rw [hp.symm.trans hq |> Option.some.inj]; exact lt_of_getElem? hl
  | dec vt els =>
    rw [hnode] at hp hget
    obtain ⟨l, r, x, hv, _⟩ := ordOk_dec ho hget
    rw [← Option.some.inj hp]; exact lt_of_getElem? hv

theorem prime_den {m : Mgr} (hm : MInv m) {x : Nat} {p : Id} (hp : primeOk m x p = true) (hv : p < m.nodes.length) :
    (p = TRUE ∧ ∀ σ, den m p σ = true) ∨
    (∃ b, m.nodes[p]? = some (Node.lit x b) ∧ ∀ σ, den m p σ = (σ x == b)) := by
  unfold primeOk at hp
  rw [Bool.or_eq_true, decide_eq_true_eq] at hp
  rcases hp with hp | hp
  · exact .inl ⟨hp, fun σ => by rw [hp, den_tt hm]⟩
  · have hg := getElem?_of_valid (m := m) hv
    cases hn : node m p with
    | lit v pol =>
      rw [hn] at hp hg
      rw [← of_decide_eq_true hp]
      exact .inr ⟨pol, hg, den_lit hg⟩
    | ff => rw [hn] at hp; cases hp
    | tt => rw [hn] at hp; cases hp
    | dec _ _ => rw [hn] at hp; cases hp

/-! ### the sum of a partition -/

/-- the truth-table sum of an element list with mutually exclusive primes is the sum over its elements -/
theorem ttWmc_anyD (pw nw : Nat → Rat) {m : Mgr} (vars : List Nat) (σ : Asg) (els : List Elem)
    (hx : ∀ τ, cntP m τ els ≤ 1) :
    ttWmc pw nw vars σ (fun τ => anyD m τ els) =
      (els.map fun e => ttWmc pw nw vars σ fun τ => den m e.1 τ && den m e.2 τ).sum := by
  induction els with
  | nil => exact ttWmc_false pw nw vars (fun _ => rfl) σ
  | cons e els ih =>
    rw [List.map_cons, List.sum_cons, ← ih fun τ => Nat.le_trans (by rw [cntP_cons]; exact Nat.le_add_left _ _) (hx τ)]
    refine ttWmc_add pw nw (fun τ ⟨h1, h2⟩ => ?_) vars σ
    -- the prime of `e` and a prime of the tail would both hold
    rw [Bool.and_eq_true] at h1
    obtain ⟨e', he', h'⟩ := List.any_eq_true.1 h2
    rw [Bool.and_eq_true] at h'
    have hpos : 0 < cntP m τ els := List.countP_pos_iff.2 ⟨e', he', h'.1⟩
    have hc := hx τ
    rw [cntP_cons, h1.1, if_pos rfl] at hc
    omega

/-- `Determined` asked only of the assignments that the sum over `vars` from `σ` ranges over: those that agree
with `σ` off `vars` -/
def DeterminedOn (vars : List Nat) (σ : Asg) (f : Fn) (u : Nat) : Prop :=
  ∀ τ, (∀ y, y ∉ vars → τ y = σ y) → ¬ (f (upd τ u true) = true ∧ f (upd τ u false) = true)

/-- the sum over `vars.erase x` from `upd σ x c` only ranges over the slice `x = c` -/
theorem DeterminedOn.slice {vars : List Nat} (hnd : vars.Nodup) {x u : Nat} (hx : x ∈ vars) (hu : u ∈ vars.erase x)
    {σ : Asg} {f g : Fn} {c : Bool} (hsl : ∀ τ, τ x = c → f τ = g τ) (hd : DeterminedOn vars σ f u) :
    DeterminedOn (vars.erase x) (upd σ x c) g u := by
  intro τ hτ hh
  have hxu : x ≠ u := fun h => ((List.Nodup.mem_erase_iff hnd).1 hu).1 h.symm
  have hτx : τ x = c := by rw [hτ x fun h => ((List.Nodup.mem_erase_iff hnd).1 h).1 rfl, upd_same]
  refine hd τ (fun y hy => ?_) ?_
  · rw [hτ y fun h => hy (List.mem_of_mem_erase h), upd_ne σ fun h : y = x => hy (h ▸ hx)]
  · rwa [hsl _ ((upd_ne τ hxu true).trans hτx), hsl _ ((upd_ne τ hxu false).trans hτx)]

/-! ### the induction over the arena -/

theorem wmc_node_exact {m : Mgr} (hm : MInv m) (ho : ordOk m = true) (pwL nwL : List Rat) :
    ∀ (i : Nat), i < m.nodes.length → ∀ (k : Nat) (vars : List Nat), vars.Nodup →
    (∀ v p, alookup v m.var2vt = some p → p < k → v ∈ vars) → Below m k i → ∀ σ,
    (∀ u ∈ vars, posOf pwL u + negOf nwL u = 1 ∨ DeterminedOn vars σ (den m i) u) →
    wmcW m pwL nwL i = ttWmc (posOf pwL) (negOf nwL) vars σ (den m i) := by
  intro i
  induction i using Nat.strongRecOn with
  | _ i ih =>
    intro hi k vars hnd hsup hpos σ hyp
    have hget := getElem?_of_valid (m := m) hi
    unfold Below vtreeOf at hpos
    cases hnode : node m i with
    | ff =>
      rw [hnode] at hget
      rw [wmcW_of_ff hget, ttWmc_false _ _ _ (den_of_ff hget)]
    | tt =>
      rw [hnode] at hget
      rw [wmcW_of_tt hget]
      refine (ttWmc_true _ _ _ (den_of_tt hget) (fun u hu => (hyp u hu).resolve_right fun h => ?_) σ).symm
      exact h σ (fun _ _ => rfl) ⟨den_of_tt hget _, den_of_tt hget _⟩
    | lit v pol =>
      rw [hnode] at hget hpos
      obtain ⟨p, hp, _⟩ := ordOk_lit ho hget
      have hv : v ∈ vars := hsup v p hp (hpos p hp)
      -- a literal is determined in no other variable, so the others are normalised
      have hnorm : ∀ u ∈ vars.erase v, posOf pwL u + negOf nwL u = 1 := fun u hu =>
        have hu' := (List.Nodup.mem_erase_iff hnd).1 hu
        (hyp u hu'.2).resolve_right fun h => h (upd σ v pol) (fun y hy => upd_ne σ (fun h : y = v => hy (h ▸ hv)) pol) (by
          rw [den_lit hget, den_lit hget, upd_ne _ (Ne.symm hu'.1), upd_ne _ (Ne.symm hu'.1), upd_same]
          exact ⟨beq_self_eq_true pol, beq_self_eq_true pol⟩)
      rw [wmcW_lit hget, ttWmc_lit_and _ _ hnd hv pol (g := fun _ => true)
        (fun τ => by rw [den_lit hget, Bool.and_true]), ttWmc_true _ _ _ (fun _ => rfl) hnorm, Rat.mul_one]
    | dec vt els =>
      rw [hnode] at hget hpos
      obtain ⟨l, r, x, hv, hl, hlx, hxl, hels⟩ := ordOk_dec ho hget
      have hlk : l < k := Nat.lt_trans hl (hpos vt rfl)
      -- the sum of a partition is the sum over its elements; each contributes the weight of its prime times its sub
      rw [wmcW_dec hm hget, ttWmc_congr _ _ _ (den_dec hm hget) σ,
        ttWmc_anyD _ _ _ _ _ fun τ => Nat.le_of_eq (hm.part _ _ _ hget τ)]
      refine congrArg List.sum (List.map_congr_left fun e he => ?_)
      obtain ⟨hpr, hsub, h1, h2⟩ := hels e he
      -- where the prime of `e` holds, the node means the sub of `e`
      have hsl : ∀ τ, den m e.1 τ = true → den m i τ = den m e.2 τ := fun τ hτ => by
        have : den m e.2 τ ∈ sel m τ els := List.mem_map_of_mem (List.mem_filter.2 ⟨he, hτ⟩)
        rw [(elsSem_node hm hget).sel_eq τ] at this
        exact (List.mem_singleton.1 this).symm
      rcases prime_den hm hpr (Nat.lt_trans h1 hi) with ⟨hT, hd⟩ | ⟨b, hn, hd⟩
      · -- prime `TRUE`: the node means the sub, at the same position
        rw [hT, wmcW_tt hm, Rat.one_mul,
          ih e.2 h2 (Nat.lt_trans h2 hi) k vars hnd hsup (fun p hp => Nat.lt_trans (subOk_below hsub p hp) hlk) σ
            fun u hu => (hyp u hu).imp id fun hdet τ hτ => by rw [← hsl _ (hd _), ← hsl _ (hd _)]; exact hdet τ hτ]
        exact ttWmc_congr _ _ _ (fun τ => by rw [den_tt hm]; rfl) σ
      · -- prime a literal of `x`: the sub is summed on its slice, over the variables positioned below the leaf of `x`
        have hx : x ∈ vars := hsup x l hxl hlk
        have hsup' : ∀ v p, alookup v m.var2vt = some p → p < l → v ∈ vars.erase x := fun v p hp hpl =>
          (List.Nodup.mem_erase_iff hnd).2
            ⟨fun h => Nat.lt_irrefl l (Option.some.inj (hxl.symm.trans (h ▸ hp)) ▸ hpl),
              hsup v p hp (Nat.lt_trans hpl hlk)⟩
        rw [wmcW_lit hn, ttWmc_lit_and _ _ hnd hx b (fun τ => by rw [hd]) σ,
          ← ih e.2 h2 (Nat.lt_trans h2 hi) l (vars.erase x) (hnd.erase x) hsup' (subOk_below hsub) _ fun u hu =>
            (hyp u (List.mem_of_mem_erase hu)).imp id
              (.slice hnd hx hu fun τ hτ => hsl τ (by rw [hd, hτ]; exact beq_self_eq_true b))]

end Kolibrie.Sdd
