import Kolibrie.Model.Lines
import Kolibrie.Spec.RoundTrip
/-
What C14 and C13 need of the line readers.  A rendered term `X` is `Good X v` when the tokenizer of
`parse_ntriples_parts` cuts it out whole (`Seg`), `clean_ntriples_term` turns it into the stored string `v`, and
`encode_term_star` leaves `v` alone; `<iri>`, blank nodes and escaped literals are `Good`.  A line of `Good` terms
`ReadsAs` its quad, and a document of such lines is read back line by line (`filterMap_lines`).
-/
namespace Kolibrie.Lines
open Kolibrie.Extracted Kolibrie.RoundTrip

/-- A row `c ↦ \e` that `decodeGo` undoes: `\e` decodes to `c`, and `e` is not `u`/`U`, which open a hex escape.
    Nor is `e` a line feed, so an escaped literal stays on its line. -/
def escRowOk (p : Char × List Char) : Bool :=
  match p.2 with
  | [b, e] => b == '\\' && e != 'u' && e != 'U' && e != '\n' && decodeTable.lookup e == some p.1
  | _ => false

/-- What the proofs use of the extracted escape table; `Props/C14` establishes it for the current table. -/
structure EscapeOk : Prop where
  rows : ∀ p ∈ escapeTable, escRowOk p = true
  special : (escapeTable.lookup '"').isSome = true ∧ (escapeTable.lookup '\\').isSome = true ∧
    (escapeTable.lookup '\n').isSome = true ∧ (escapeTable.lookup '\r').isSome = true

theorem escapeChar_cases (ok : EscapeOk) (c : Char) :
    (escapeChar c = [c] ∧ c ≠ '"' ∧ c ≠ '\\' ∧ c ≠ '\n') ∨
    ∃ e, escapeChar c = ['\\', e] ∧ e ≠ 'u' ∧ e ≠ 'U' ∧ e ≠ '\n' ∧ decodeTable.lookup e = some c := by
  unfold escapeChar
  cases hl : escapeTable.lookup c with
  | none =>
    have ne : ∀ k, (escapeTable.lookup k).isSome = true → c ≠ k := fun k hk e => by
      rw [← e, hl] at hk; cases hk
    exact Or.inl ⟨rfl, ne _ ok.special.1, ne _ ok.special.2.1, ne _ ok.special.2.2.1⟩
  | some r =>
    obtain ⟨l₁, l₂, hm, _⟩ := List.lookup_eq_some_iff.1 hl
    have hr := ok.rows (c, r) (hm ▸ List.mem_append_right l₁ List.mem_cons_self)
    -- a well-formed row has exactly two characters
    rcases r with _ | ⟨b, _ | ⟨e, _ | _⟩⟩
    · cases hr
    · cases hr
    · simp only [escRowOk, Bool.and_eq_true, beq_iff_eq, bne_iff_ne, ne_eq] at hr
      obtain ⟨⟨⟨⟨rfl, hu⟩, hU⟩, hn⟩, hd⟩ := hr
      exact Or.inr ⟨e, rfl, hu, hU, hn, hd⟩
    · cases hr

theorem trimStart_cons {c : Char} {l : Str} (h : rustWs c = false) : trimStart (c :: l) = c :: l := by
  simp [trimStart, List.dropWhile, h]

theorem trimEnd_snoc {c : Char} {l : Str} (h : rustWs c = false) : trimEnd (l ++ [c]) = l ++ [c] := by
  simp [trimEnd, h]

theorem trimEnd_snoc_ws {c : Char} {l : Str} (h : rustWs c = true) : trimEnd (l ++ [c]) = trimEnd l := by
  simp [trimEnd, h]

/-- a text that `trim` leaves alone and that `stripDot` does not take for a comment line -/
def Tok (X : Str) : Prop := ∃ a m b, X = a :: (m ++ [b]) ∧ rustWs a = false ∧ rustWs b = false ∧ a ≠ '#'

theorem trim_tok {X : Str} (h : Tok X) : trim X = X := by
  obtain ⟨a, m, b, rfl, ha, hb, _⟩ := h
  unfold trim
  rw [trimStart_cons ha]
  exact trimEnd_snoc (l := a :: m) hb

theorem tok_join {A C : Str} (c : Char) (hA : Tok A) (hC : Tok C) : Tok (A ++ c :: C) := by
  obtain ⟨a, m, b, rfl, ha, _, hn⟩ := hA
  obtain ⟨a', m', b', rfl, _, hb', _⟩ := hC
  exact ⟨a, m ++ b :: c :: a' :: m', b', by simp, ha, hb', hn⟩

theorem trim_nonws {s : Str} (h : ∀ c ∈ s, rustWs c = false) : trim s = s := by
  have dw : ∀ l : Str, (∀ c ∈ l, rustWs c = false) → l.dropWhile rustWs = l := fun l hl => by
    cases l with
    | nil => rfl
    | cons a l => exact trimStart_cons (hl a List.mem_cons_self)
  unfold trim trimStart trimEnd
  rw [dw s h, dw _ fun c hc => h c (List.mem_reverse.1 hc), List.reverse_reverse]

theorem escape_cons (c : Char) (s : Str) : escape (c :: s) = escapeChar c ++ escape s := by
  simp [escape, List.flatMap_cons]

theorem decodeGo_escapeChar (ok : EscapeOk) (c : Char) (rest acc : Str) :
    decodeGo (escapeChar c ++ rest) .normal acc = decodeGo rest .normal (c :: acc) := by
  rcases escapeChar_cases ok c with ⟨h, h1, h2, _⟩ | ⟨e, h, hu, hU, _, hd⟩
  · simp only [h, List.cons_append, List.nil_append, decodeGo, h1, h2, if_false]
  · have e1 : ('\\' : Char) ≠ '"' := by decide
    simp only [h, List.cons_append, List.nil_append, decodeGo, e1, if_false, if_true, hu, hU, hd]

theorem decodeGo_escape (ok : EscapeOk) (s rest acc : Str) :
    decodeGo (escape s ++ '"' :: rest) .normal acc = some (acc.reverse ++ s, rest) := by
  induction s generalizing acc with
  | nil => simp [escape, decodeGo]
  | cons c s ih =>
    rw [escape_cons, List.append_assoc, decodeGo_escapeChar ok, ih]
    simp

theorem escape_nonl (ok : EscapeOk) (o : Str) : ∀ c ∈ escape o, c ≠ '\n' := by
  refine List.forall_mem_flatMap.2 fun a _ => ?_
  rcases escapeChar_cases ok a with ⟨h, _, _, hn⟩ | ⟨e, h, _, _, hn, _⟩ <;> rw [h]
  · exact List.forall_mem_singleton.2 hn
  · exact List.forall_mem_cons.2 ⟨by decide, List.forall_mem_singleton.2 hn⟩

/-- the tokenizer of `parse_ntriples_parts` in a bare word (`inUri = false`) or inside `<…>` (`inUri = true`) -/
def wordSt (parts : List Str) (cur : Str) (inUri : Bool) : PS := ⟨parts, cur, inUri, false, false, 0, .none⟩
/-- ... inside a quoted literal -/
def litSt (parts : List Str) (cur : Str) : PS := ⟨parts, cur, false, true, false, 0, .none⟩
/-- ... between terms -/
abbrev idle (parts : List Str) : PS := wordSt parts [] false

/-- a text that the tokenizer cuts into exactly the terms `Xs`, in the middle of a line and at its end -/
structure Seg (X : Str) (Xs : List Str) : Prop where
  run : ∀ parts, step (X.foldl step (idle parts)) ' ' = idle (parts ++ Xs) ∧
    finish (X.foldl step (idle parts)) = parts ++ Xs
  tok : Tok X
  nonl : ∀ c ∈ X, c ≠ '\n'

/-- the space after the first text brings the tokenizer back between terms, where the second starts -/
theorem Seg.join {A B : Str} {As Bs : List Str} (hA : Seg A As) (hB : Seg B Bs) : Seg (A ++ ' ' :: B) (As ++ Bs) := by
  refine ⟨fun parts => ?_, tok_join ' ' hA.tok hB.tok,
    List.forall_mem_append.2 ⟨hA.nonl, List.forall_mem_cons.2 ⟨by decide, hB.nonl⟩⟩⟩
  rw [List.foldl_append, List.foldl_cons, (hA.run parts).1, ← List.append_assoc]
  exact hB.run _

theorem iriChar_facts {c : Char} (h : iriChar c = true) :
    rustWs c = false ∧ c ≠ '\n' ∧ c ≠ '<' ∧ c ≠ '"' ∧ c ≠ '>' ∧ c ≠ '\\' ∧ c ≠ ' ' ∧ c ≠ '\t' := by
  simp only [iriChar, Bool.and_eq_true, bne_iff_ne, ne_eq, Bool.not_eq_true', decide_eq_true_eq] at h
  obtain ⟨⟨⟨⟨⟨⟨⟨⟨⟨⟨h0, hw⟩, h1⟩, h2⟩, h3⟩, _⟩, _⟩, _⟩, _⟩, _⟩, h4⟩ := h
  have low : ∀ d : Char, d.toNat ≤ 0x20 → c ≠ d := fun d hd e => Nat.lt_irrefl _ (Nat.lt_of_lt_of_le (e ▸ h0) hd)
  exact ⟨hw, low _ (by decide), h1, h3, h2, h4, low _ (by decide), low _ (by decide)⟩

theorem step_word {c : Char} (h : iriChar c = true) (parts : List Str) (cur : Str) (u : Bool) :
    step (wordSt parts cur u) c = wordSt parts (cur ++ [c]) u := by
  obtain ⟨_, _, h1, h3, h2, h4, h5, h6⟩ := iriChar_facts h
  simp [step, normal, wordSt, h1, h2, h3, h4, h5, h6, PS.push]

theorem run_word (parts : List Str) (u : Bool) (s cur : Str) (h : s.all iriChar = true) :
    s.foldl step (wordSt parts cur u) = wordSt parts (cur ++ s) u := by
  induction s generalizing cur with
  | nil => simp
  | cons c s ih =>
    simp only [List.all_cons, Bool.and_eq_true] at h
    rw [List.foldl_cons, step_word h.1, ih _ h.2, List.append_assoc]
    rfl

/-- `<` is held back until the next character shows that it does not open `<<` -/
theorem step_idle_lt {c : Char} (h : c ≠ '<') (parts : List Str) :
    step (step (idle parts) '<') c = step (wordSt parts ['<'] true) c := by
  have e : step (idle parts) '<' = { idle parts with pend := .lt } := rfl
  rw [e]
  unfold step
  simp [resolveLt, wordSt, h, PS.push]

/-! One step on a given character from a state given up to `parts` and `cur` is a computation. -/

theorem step_uri_gt (parts : List Str) (cur : Str) :
    step (wordSt parts cur true) '>' = idle (parts ++ [trim (cur ++ ['>'])]) := rfl

theorem close_word (parts : List Str) (a : Char) (cur : Str) :
    step (wordSt parts (a :: cur) false) ' ' = idle (parts ++ [trim (a :: cur)]) ∧
    finish (wordSt parts (a :: cur) false) = parts ++ [trim (a :: cur)] :=
  ⟨rfl, rfl⟩

theorem step_idle_quote (parts : List Str) : step (idle parts) '"' = litSt parts ['"'] := rfl

/-- after the closing quote the tokenizer waits for `^^` or `@` -/
theorem step_lit_quote (parts : List Str) (cur : Str) :
    step (litSt parts cur) '"' = ⟨parts, cur ++ ['"'], false, false, false, 0, .quote⟩ := rfl

theorem close_quote (parts : List Str) (cur : Str) :
    step ⟨parts, cur, false, false, false, 0, .quote⟩ ' ' = idle (parts ++ [trim cur]) ∧
    finish ⟨parts, cur, false, false, false, 0, .quote⟩ = parts ++ [trim cur] :=
  ⟨rfl, rfl⟩

theorem seg_angle {s : Str} (hne : s ≠ []) (h : s.all iriChar = true) : Seg (angle s) [angle s] := by
  have htok : Tok (angle s) := ⟨'<', s, '>', rfl, by decide, by decide, by decide⟩
  refine ⟨fun parts => ?_, htok, List.forall_mem_cons.2 ⟨by decide, List.forall_mem_append.2
    ⟨fun c hc => (iriChar_facts (List.all_eq_true.1 h c hc)).2.1, List.forall_mem_singleton.2 (by decide)⟩⟩⟩
  have run : (angle s).foldl step (idle parts) = idle (parts ++ [angle s]) := by
    cases s with
    | nil => exact absurd rfl hne
    | cons c s' =>
      have hc := iriChar_facts (List.all_eq_true.1 h c List.mem_cons_self)
      simp only [angle, List.cons_append, List.foldl_cons, List.foldl_append, List.foldl_nil, step_idle_lt hc.2.2.1]
      rw [← List.foldl_cons (f := step), run_word parts true _ _ h, step_uri_gt]
      exact congrArg (fun t => idle (parts ++ [t])) (trim_tok htok)
  rw [run]
  exact ⟨rfl, rfl⟩

theorem seg_word {X : Str} (htok : Tok X) (h : X.all iriChar = true) : Seg X [X] := by
  refine ⟨fun parts => ?_, htok, fun c hc => (iriChar_facts (List.all_eq_true.1 h c hc)).2.1⟩
  rw [run_word parts false X [] h, List.nil_append]
  have ht := trim_tok htok
  obtain ⟨a, m, b, rfl, -⟩ := htok
  have := close_word parts a (m ++ [b])
  rwa [ht] at this

theorem run_lit_escapeChar (ok : EscapeOk) (parts : List Str) (cur : Str) (c : Char) :
    (escapeChar c).foldl step (litSt parts cur) = litSt parts (cur ++ escapeChar c) := by
  rcases escapeChar_cases ok c with ⟨h, h1, h2, _⟩ | ⟨e, h, _⟩ <;> rw [h]
  · simp [step, normal, litSt, h1, h2, PS.push]
  · simp [step, normal, litSt, PS.push]

theorem run_lit (ok : EscapeOk) (parts : List Str) (o cur : Str) :
    (escape o).foldl step (litSt parts cur) = litSt parts (cur ++ escape o) := by
  induction o generalizing cur with
  | nil => simp [escape]
  | cons c o ih => rw [escape_cons, List.foldl_append, run_lit_escapeChar ok, ih, List.append_assoc]

theorem seg_quote (ok : EscapeOk) (o : Str) : Seg (quote o) [quote o] := by
  have htok : Tok (quote o) := ⟨'"', escape o, '"', rfl, by decide, by decide, by decide⟩
  refine ⟨fun parts => ?_, htok, List.forall_mem_cons.2 ⟨by decide, List.forall_mem_append.2
    ⟨escape_nonl ok o, List.forall_mem_singleton.2 (by decide)⟩⟩⟩
  have run : (quote o).foldl step (idle parts) = ⟨parts, quote o, false, false, false, 0, .quote⟩ := by
    simp only [quote, List.cons_append, List.foldl_cons, List.foldl_append, List.foldl_nil, step_idle_quote,
      run_lit ok, step_lit_quote, List.nil_append]
  rw [run]
  have := close_quote parts (quote o)
  rwa [trim_tok htok] at this

theorem iriChar_of_label {c : Char} (h : labelChar c = true) : iriChar c = true := by
  have hn : ∀ d : Char, labelChar d = false → c ≠ d := by
    intro d hd e; subst e; rw [h] at hd; cases hd
  have hb : 45 ≤ c.toNat ∧ c.toNat ≤ 122 := by
    simp only [labelChar, Bool.or_eq_true, Bool.and_eq_true, decide_eq_true_eq, beq_iff_eq] at h
    omega
  have hw : rustWs c = false := by
    simp only [rustWs, Bool.or_eq_false_iff, Bool.and_eq_false_iff, decide_eq_false_iff_not, beq_eq_false_iff_ne, ne_eq]
    omega
  simp only [iriChar, Bool.and_eq_true, bne_iff_ne, ne_eq, Bool.not_eq_true', decide_eq_true_eq]
  exact ⟨⟨⟨⟨⟨⟨⟨⟨⟨⟨Nat.lt_of_lt_of_le (by decide) hb.1, hw⟩, hn _ (by decide)⟩, hn _ (by decide)⟩, hn _ (by decide)⟩,
    hn _ (by decide)⟩, hn _ (by decide)⟩, hn _ (by decide)⟩, hn _ (by decide)⟩, hn _ (by decide)⟩, hn _ (by decide)⟩

theorem validBlank_shape {b : Str} (h : validBlank b = true) :
    ∃ l, b = '_' :: ':' :: l ∧ b.all iriChar = true ∧ Tok b := by
  unfold validBlank at h
  split at h
  · next l =>
    have hl : ∀ c ∈ l, iriChar c = true := fun c hc => iriChar_of_label (List.all_eq_true.1 h c hc)
    refine ⟨l, rfl, ?_, ?_⟩
    · simp only [List.all_cons, Bool.and_eq_true, List.all_eq_true]
      exact ⟨by decide, by decide, hl⟩
    · rcases List.eq_nil_or_concat l with rfl | ⟨l', x, rfl⟩
      · exact ⟨'_', [], ':', rfl, by decide, by decide, by decide⟩
      · exact ⟨'_', ':' :: l', x, by simp, by decide, (iriChar_facts (hl x (by simp))).1, by decide⟩
  · cases h

theorem startsWith_cons_ne {a b : Char} (p s : Str) (h : a ≠ b) : startsWith (a :: p) (b :: s) = false := by
  simp [startsWith, List.isPrefixOf, h]

theorem endsWith_append (x p : Str) : endsWith p (x ++ p) = true :=
  List.isSuffixOf_iff_suffix.2 (List.suffix_append x p)

theorem stripDot_body {body : Str} (h : Tok body) : stripDot (body ++ [' ', '.']) = some body := by
  obtain ⟨a, m, b, rfl, ha, hb, hn⟩ := h
  have t1 : trim (a :: (m ++ [b]) ++ [' ', '.']) = a :: (m ++ [b]) ++ [' ', '.'] :=
    trim_tok ⟨a, m ++ [b, ' '], '.', by simp, ha, by decide, hn⟩
  -- the space before the dot goes with the second `trim`
  have t2 : trim (a :: (m ++ [b]) ++ [' ']) = a :: (m ++ [b]) := by
    unfold trim
    rw [List.cons_append, trimStart_cons ha, ← List.cons_append, trimEnd_snoc_ws (by decide)]
    exact trimEnd_snoc (l := a :: m) hb
  have e : a :: (m ++ [b]) ++ [' ', '.'] = a :: (m ++ [b]) ++ [' '] ++ ['.'] := (List.append_assoc _ [' '] ['.']).symm
  unfold stripDot
  simp only [t1]
  rw [e, endsWith_append, List.dropLast_concat, t2, List.cons_append, List.cons_append,
    startsWith_cons_ne _ _ (Ne.symm hn)]
  rfl

theorem genLineNQ_eq (s p o : Str) (g : Option Str) :
    genLineNQ s p o g = joinSp (nqSubj s :: angle p :: nqObj o :: (g.map nqGraph).toList) ++ [' ', '.'] := by
  cases g <;> simp [genLineNQ, joinSp]

theorem genLineNT_eq (s p o : Str) : genLineNT s p o = joinSp [ntSubj s, angle p, ntObj o] ++ [' ', '.'] := by
  simp [genLineNT, joinSp]

theorem encTerm_plain {t : Str} (h1 : trim t = t)
    (hA : startsWith ['<', '<'] t = false)
    (hB : (startsWith ['<'] t && endsWith ['>'] t) = false)
    (hC : startsWith ['"'] t = false) : encTerm t = .plain t := by
  simp [encTerm, encodeTermStar, h1, hA, hB, hC]

theorem iriChars_head {v : Str} (h : v.all iriChar = true) :
    trim v = v ∧ startsWith ['<'] v = false ∧ startsWith ['"'] v = false ∧ startsWith ['<', '<'] v = false := by
  refine ⟨trim_nonws fun c hc => (iriChar_facts (List.all_eq_true.1 h c hc)).1, ?_⟩
  cases v with
  | nil => exact ⟨rfl, rfl, rfl⟩
  | cons f r =>
    have hf := iriChar_facts (List.all_eq_true.1 h f List.mem_cons_self)
    exact ⟨startsWith_cons_ne _ _ hf.2.2.1.symm, startsWith_cons_ne _ _ hf.2.2.2.1.symm, startsWith_cons_ne _ _ hf.2.2.1.symm⟩

theorem encTerm_iriChars {v : Str} (h : v.all iriChar = true) : encTerm v = .plain v := by
  obtain ⟨hw, h1, h2, h3⟩ := iriChars_head h
  exact encTerm_plain hw h3 (by rw [h1]; rfl) h2

theorem sliceMid_angle (s : Str) : sliceMid (angle s) = s := by
  simp [sliceMid, angle]

theorem looksLike_head {v : Str} (h : looksLikeAbsoluteIri v = true) : ∃ f r, v = f :: r ∧ f.isAlpha = true := by
  cases v with
  | nil => simp [looksLikeAbsoluteIri] at h
  | cons c r =>
    refine ⟨c, r, rfl, ?_⟩
    simp only [looksLikeAbsoluteIri, Bool.and_eq_true] at h
    have h2 := h.2
    by_cases hc : (c != ':') = true
    · simp [List.takeWhile, hc] at h2; exact h2.1
    · simp [List.takeWhile, hc] at h2

theorem isHttp_looksLike {o : Str} (h : isHttp o = true) : looksLikeAbsoluteIri o = true := by
  simp only [isHttp, startsWith, Bool.or_eq_true, List.isPrefixOf_iff_prefix] at h
  rcases h with ⟨r, rfl⟩ | ⟨r, rfl⟩ <;> simp [looksLikeAbsoluteIri, List.takeWhile] <;> decide

theorem alpha_ne {f d : Char} (h : f.isAlpha = true) (hd : d.isAlpha = false) : f ≠ d := by
  intro e; subst e; rw [h] at hd; cases hd

/-- what reading a line back needs of one rendered term `X` that stands for the stored string `v` -/
structure Good (X v : Str) : Prop where
  seg : Seg X [X]
  clean : cleanNT X = v
  enc : encTerm v = .plain v

theorem good_angle_all {s : Str} (hne : s ≠ []) (hall : s.all iriChar = true) : Good (angle s) s := by
  have seg := seg_angle hne hall
  refine ⟨seg, ?_, encTerm_iriChars hall⟩
  unfold cleanNT
  simp only [trim_tok seg.tok]
  cases s with
  | nil => exact absurd rfl hne
  | cons f r =>
    have hc := iriChar_facts (List.all_eq_true.mp hall f List.mem_cons_self)
    have a1 : startsWith ['<', '<'] (angle (f :: r)) = false := by
      simp [startsWith, angle, List.isPrefixOf, hc.2.2.1.symm]
    have a2 : startsWith ['<'] (angle (f :: r)) = true := by simp [startsWith, angle, List.isPrefixOf]
    have a3 : endsWith ['>'] (angle (f :: r)) = true := endsWith_append ('<' :: f :: r) ['>']
    simp [a1, a2, a3, sliceMid_angle]

theorem good_angle {s : Str} (h : validIri s = true) : Good (angle s) s := by
  obtain ⟨h1, h2⟩ := Bool.and_eq_true_iff.1 h
  obtain ⟨f, r, rfl, _⟩ := looksLike_head h1
  exact good_angle_all (List.cons_ne_nil f r) h2

theorem good_blank {b : Str} (h : validBlank b = true) : Good b b := by
  obtain ⟨l, rfl, hall, htok⟩ := validBlank_shape h
  refine ⟨seg_word htok hall, ?_, encTerm_iriChars hall⟩
  unfold cleanNT
  simp only [trim_tok htok]
  simp [startsWith, List.isPrefixOf]

theorem good_quote (ok : EscapeOk) {o : Str} (h1 : startsWith ['<', '<'] o = false) (h2 : edgeShape o = false) :
    Good (quote o) o := by
  have seg := seg_quote ok o
  simp only [edgeShape, Bool.or_eq_false_iff, bne_eq_false_iff_eq] at h2
  refine ⟨seg, ?_, encTerm_plain h2.1.1 h1 h2.2 h2.1.2⟩
  unfold cleanNT
  simp only [trim_tok seg.tok]
  simp [startsWith, quote, List.isPrefixOf, decodeLit, decodeGo_escape ok]

theorem good_quote_iriChars (ok : EscapeOk) {v : Str} (h : v.all iriChar = true) : Good (quote v) v := by
  obtain ⟨hw, h1, h2, h3⟩ := iriChars_head h
  exact good_quote ok h3 (by simp [edgeShape, hw, h1, h2])

/-- `l` is a line that `lines` hands to `parse` unchanged and that `parse` reads as `v` -/
def ReadsAs {β} (parse : Str → Option β) (l : Str) (v : β) : Prop :=
  (∀ c ∈ l, c ≠ '\n') ∧ (∃ x, l = x ++ ['.']) ∧ parse l = some v

/-- A generated line — rendered terms separated by spaces, then ` .` — has no line feed and ends in `.`; the reader
    strips the dot and cuts the rest back into the terms. -/
theorem Seg.readsAs {β} {parse : Str → Option β} {X : Str} {Xs : List Str} {v : β} (h : Seg X Xs)
    (hp : stripDot (X ++ [' ', '.']) = some X → partsLine X = Xs → parse (X ++ [' ', '.']) = some v) :
    ReadsAs parse (X ++ [' ', '.']) v :=
  ⟨List.forall_mem_append.2 ⟨h.nonl, by decide⟩, ⟨X ++ [' '], by simp⟩, hp (stripDot_body h.tok) (h.run []).2⟩

theorem parseLineNQ_three {A B C a b c : Str} (gA : Good A a) (gB : Good B b) (gC : Good C c) :
    ReadsAs parseLineNQ (joinSp [A, B, C] ++ [' ', '.']) ⟨.plain a, .plain b, .plain c, none⟩ :=
  (gA.seg.join (gB.seg.join gC.seg)).readsAs (X := joinSp [A, B, C]) (Xs := [A, B, C]) fun h3 h4 => by
    simp only [parseLineNQ, h3, h4, gA.clean, gB.clean, gC.clean, gA.enc, gB.enc, gC.enc]

theorem parseLineNQ_four {A B C D a b c d : Str} (gA : Good A a) (gB : Good B b) (gC : Good C c) (gD : Good D d) :
    ReadsAs parseLineNQ (joinSp [A, B, C, D] ++ [' ', '.']) ⟨.plain a, .plain b, .plain c, some (.plain d)⟩ :=
  (gA.seg.join (gB.seg.join (gC.seg.join gD.seg))).readsAs (X := joinSp [A, B, C, D]) (Xs := [A, B, C, D])
    fun h3 h4 => by
      simp only [parseLineNQ, h3, h4, gA.clean, gB.clean, gC.clean, gD.clean, gA.enc, gB.enc, gC.enc]

/-- the predicate of a generated line is `<…>`, never the keyword `a` -/
theorem parseLineNT_three {A p C a c : Str} (gA : Good A a) (gB : Good (angle p) p) (gC : Good C c) :
    ReadsAs parseLineNT (joinSp [A, angle p, C] ++ [' ', '.']) ⟨.plain a, .plain p, .plain c, none⟩ :=
  (gA.seg.join (gB.seg.join gC.seg)).readsAs (X := joinSp [A, angle p, C]) (Xs := [A, angle p, C]) fun h3 h4 => by
    have na : (angle p = ['a']) = False := by simp [angle]
    simp only [parseLineNT, parseLineNTs, h3, h4, na, if_false, gA.clean, gB.clean, gC.clean, Option.map_some,
      encTriple, gA.enc, gB.enc, gC.enc]

theorem linesGo_line : ∀ (l rest cur : Str), (∀ c ∈ l, c ≠ '\n') →
    linesGo (l ++ '\n' :: rest) cur = stripCr (cur.reverse ++ l) :: linesGo rest [] := by
  intro l
  induction l with
  | nil => intro rest cur _; simp [linesGo]
  | cons c l ih =>
    intro rest cur h
    have hc : c ≠ '\n' := h c (by simp)
    simp only [List.cons_append, linesGo, hc, if_false]
    rw [ih rest (c :: cur) (fun d hd => h d (List.mem_cons_of_mem _ hd))]
    simp

theorem stripCr_dot (x : Str) : stripCr (x ++ ['.']) = x ++ ['.'] := by
  simp [stripCr]

theorem filterMap_lines {α β} (f : α → Str) (parse : Str → Option β) (g : α → β) (D : List α)
    (h : ∀ a ∈ D, ReadsAs parse (f a) (g a)) :
    (lines (D.flatMap fun a => f a ++ ['\n'])).filterMap parse = D.map g := by
  induction D with
  | nil => rfl
  | cons a D ih =>
    obtain ⟨hnl, ⟨x, hx⟩, hp⟩ := h a List.mem_cons_self
    have ih := ih fun b hb => h b (List.mem_cons_of_mem _ hb)
    unfold lines at ih ⊢
    rw [List.flatMap_cons, List.append_assoc, List.singleton_append, linesGo_line _ _ _ hnl, List.reverse_nil,
      List.nil_append, hx, stripCr_dot, ← hx, List.filterMap_cons, hp, ih, List.map_cons]

/-- `lines` splits a document of `\n`-terminated lines back into them; a line that ends in `.` does not end in the
    `\r` that `lines` would drop. -/
theorem lines_flatMap {α} (f : α → Str) (hnl : ∀ a, ∀ c ∈ f a, c ≠ '\n') (hdot : ∀ a, ∃ x, f a = x ++ ['.']) :
    ∀ (D : List α), lines (D.flatMap fun a => f a ++ ['\n']) = D.map f := by
  intro D
  have := filterMap_lines f some f D fun a _ => ⟨hnl a, hdot a, rfl⟩
  rwa [List.filterMap_some] at this

end Kolibrie.Lines
