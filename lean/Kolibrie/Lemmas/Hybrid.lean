import Kolibrie.Model.Hybrid
import Kolibrie.Spec.Worlds
/-! Lemmas for C08 (core Lean only).  The exact count `mass` is the world sum `specMass` (`mass_eq_spec`).  The worlds
containing a proof free of group members weigh at most its `prodFactors` (`prod_bound`); with the cover invariant `Inv`
of the enumeration this gives `EnumSpec` and the interval (`interval_sound`).  The controller is taken apart by the case
lemmas `decideIter_cases`, `iteration_cases`, `evaluateHybrid_cases`.  Store operations are specified through
`Store.Denotes`. -/
namespace Kolibrie.Hybrid

/-! ### world sums -/

section
variable (f g : List Nat → Bool) (l : List (List Nat × Nat))

theorem sumWeights_append (a b : List (List Nat × Nat)) :
    sumWeights f (a ++ b) = sumWeights f a + sumWeights f b := by
  induction a with
  | nil => simp only [List.nil_append, sumWeights, Nat.zero_add]
  | cons x a ih => simp only [List.cons_append, sumWeights, ih, Nat.add_assoc]

theorem sumWeights_false : sumWeights (fun _ => false) l = 0 := by
  induction l with
  | nil => rfl
  | cons x l ih => simpa [sumWeights] using ih

theorem sumWeights_le_add (k : List Nat → Bool) (h : ∀ w, f w = true → g w = true ∨ k w = true) :
    sumWeights f l ≤ sumWeights g l + sumWeights k l := by
  induction l with
  | nil => exact Nat.le_refl 0
  | cons x l ih =>
    have hx : (if f x.1 then x.2 else 0) ≤ (if g x.1 then x.2 else 0) + if k x.1 then x.2 else 0 := by
      by_cases hf : f x.1 = true
      · rcases h x.1 hf with hg | hk
        · rw [if_pos hf, if_pos hg]; exact Nat.le_add_right _ _
        · rw [if_pos hf, if_pos hk]; exact Nat.le_add_left _ _
      · rw [if_neg hf]; exact Nat.zero_le _
    exact Nat.le_trans (Nat.add_le_add hx ih) (Nat.le_of_eq (Nat.add_add_add_comm _ _ _ _))

theorem sumWeights_mono (h : ∀ w, f w = true → g w = true) : sumWeights f l ≤ sumWeights g l := by
  have := sumWeights_le_add f g l (fun _ => false) fun w hw => Or.inl (h w hw)
  rwa [sumWeights_false] at this

theorem sumWeights_map (t : List Nat → List Nat) (c : Nat) :
    sumWeights f (l.map fun x => (t x.1, c * x.2)) = c * sumWeights (fun w => f (t w)) l := by
  induction l with
  | nil => rfl
  | cons x l ih =>
    simp only [List.map_cons, sumWeights, ih, Nat.mul_add]
    split <;> rfl

theorem sumWeights_flatMap_cons (a : List Nat × Nat → List Nat × Nat) (b : List Nat × Nat → List (List Nat × Nat)) :
    sumWeights f (l.flatMap fun x => a x :: b x) = sumWeights f (l.map a) + sumWeights f (l.flatMap b) := by
  induction l with
  | nil => rfl
  | cons x l ih =>
    simp only [List.flatMap_cons, List.map_cons, List.cons_append, sumWeights, sumWeights_append, ih]
    omega
end

def sumW (f : List Nat → Bool) (us : List U) : Nat := sumWeights f (worlds us)

def sumG (f : List Nat → Bool) (us : List U) : List Seed → Nat
  | [] => 0
  | m :: ms => m.num * sumW (fun w => f (m.id :: w)) us + sumG f us ms

theorem sumG_congr (f g : List Nat → Bool) (us : List U) (ms : List Seed)
    (h : ∀ m ∈ ms, sumW (fun w => f (m.id :: w)) us = sumW (fun w => g (m.id :: w)) us) :
    sumG f us ms = sumG g us ms := by
  induction ms with
  | nil => rfl
  | cons m ms ih => rw [sumG, sumG, h m List.mem_cons_self, ih fun m' hm' => h m' (List.mem_cons_of_mem _ hm')]

section
variable (f : List Nat → Bool) (us : List U)

theorem sumW_nil : sumW f [] = if f [] then 1 else 0 := Nat.add_zero _

theorem sumW_ind (s : Seed) :
    sumW f (.ind s :: us) = s.num * sumW (fun w => f (s.id :: w)) us + (s.den - s.num) * sumW f us := by
  have h := sumWeights_flatMap_cons f (worlds us) (fun x => (s.id :: x.1, s.num * x.2))
    fun x => [(x.1, (s.den - s.num) * x.2)]
  rw [← List.map_eq_flatMap, sumWeights_map f _ (s.id :: ·)] at h
  exact h.trans (congrArg _ (sumWeights_map f _ id _))

theorem sumW_grp (ms : List Seed) : sumW f (.grp ms :: us) = sumG f us ms := by
  induction ms with
  | nil => exact congrArg _ (List.flatMap_eq_nil_iff.2 fun _ _ => rfl)
  | cons m ms ih =>
    have h := sumWeights_flatMap_cons f (worlds us) (fun x => (m.id :: x.1, m.num * x.2))
      fun x => ms.map fun m => (m.id :: x.1, m.num * x.2)
    rw [sumWeights_map f _ (m.id :: ·)] at h
    exact h.trans (congrArg _ ih)

theorem sumW_congr {f g : List Nat → Bool} (h : ∀ w, f w = g w) : sumW f us = sumW g us := by
  rw [funext h]

theorem sumG_eq {ms : List Seed} {c : Nat} (h : ∀ m ∈ ms, sumW (fun w => f (m.id :: w)) us = c) :
    sumG f us ms = sumNum ms * c := by
  induction ms with
  | nil => rw [sumG, sumNum, Nat.zero_mul]
  | cons m ms ih =>
    rw [sumG, sumNum, h m List.mem_cons_self, ih fun m' hm' => h m' (List.mem_cons_of_mem _ hm'), Nat.add_mul]
end

mutual
theorem sem_agree (w w' : List Nat) :
    ∀ φ, (∀ x, mentions x φ = true → w.contains x = w'.contains x) → sem w φ = sem w' φ
  | .fls, _ => rfl
  | .tru, _ => rfl
  | .lit s, h => h s (beq_self_eq_true s)
  | .and cs, h => semAll_agree w w' cs h
  | .or cs, h => semAny_agree w w' cs h
  | .not c, h => congrArg (!·) (sem_agree w w' c h)
theorem semAll_agree (w w' : List Nat) :
    ∀ cs, (∀ x, mentionsAny x cs = true → w.contains x = w'.contains x) → semAll w cs = semAll w' cs
  | [], _ => rfl
  | c :: cs, h =>
    show (sem w c && semAll w cs) = (sem w' c && semAll w' cs) from
      congr (congrArg and (sem_agree w w' c fun x hx => h x (Bool.or_eq_true_iff.2 (Or.inl hx))))
        (semAll_agree w w' cs fun x hx => h x (Bool.or_eq_true_iff.2 (Or.inr hx)))
theorem semAny_agree (w w' : List Nat) :
    ∀ cs, (∀ x, mentionsAny x cs = true → w.contains x = w'.contains x) → semAny w cs = semAny w' cs
  | [], _ => rfl
  | c :: cs, h =>
    show (sem w c || semAny w cs) = (sem w' c || semAny w' cs) from
      congr (congrArg or (sem_agree w w' c fun x hx => h x (Bool.or_eq_true_iff.2 (Or.inl hx))))
        (semAny_agree w w' cs fun x hx => h x (Bool.or_eq_true_iff.2 (Or.inr hx)))
end

theorem sem_congr (w w' : List Nat) (h : ∀ x, w.contains x = w'.contains x) (φ : L) : sem w φ = sem w' φ :=
  sem_agree w w' φ fun x _ => h x
theorem semAll_congr (w w' : List Nat) (h : ∀ x, w.contains x = w'.contains x) : ∀ cs, semAll w cs = semAll w' cs :=
  fun cs => semAll_agree w w' cs fun x _ => h x
theorem semAny_congr (w w' : List Nat) (h : ∀ x, w.contains x = w'.contains x) : ∀ cs, semAny w cs = semAny w' cs :=
  fun cs => semAny_agree w w' cs fun x _ => h x

theorem contains_cons_of_ne {x y : Nat} (w : List Nat) (h : y ≠ x) : (x :: w).contains y = w.contains y := by
  rw [List.contains_cons, beq_false_of_ne h, Bool.false_or]

theorem sem_unmentioned (x : Nat) (w : List Nat) (φ : L) (h : mentions x φ = false) : sem (x :: w) φ = sem w φ :=
  sem_agree _ _ φ fun y hy => contains_cons_of_ne w fun e => by rw [e, h] at hy; cases hy
theorem semAny_unmentioned (x : Nat) (w : List Nat) : ∀ cs, mentionsAny x cs = false → semAny (x :: w) cs = semAny w cs :=
  fun cs h => semAny_agree _ _ cs fun y hy => contains_cons_of_ne w fun e => by rw [e, h] at hy; cases hy

theorem sem_perm_cons (x : Nat) (w acc : List Nat) (φ : L) : sem (w ++ x :: acc) φ = sem ((x :: w) ++ acc) φ := by
  apply sem_congr
  intro y
  simp only [List.contains_eq_mem, List.mem_append, List.mem_cons, List.cons_append, or_left_comm]

def unitsOk (us : List U) : Prop := ∀ s, .ind s ∈ us → s.num ≤ s.den

theorem unitsOk.tail {u : U} {us : List U} (h : unitsOk (u :: us)) : unitsOk us :=
  fun s hs => h s (List.mem_cons_of_mem _ hs)

theorem massU_eq {us : List U} (h : unitsOk us) (acc : List Nat) (φ : L) :
    massU us acc φ = sumW (fun w => sem (w ++ acc) φ) us := by
  induction us generalizing acc with
  | nil => rw [massU, sumW_nil]; rfl
  | cons u us ih =>
    have ih := ih h.tail
    cases u with
    | ind s =>
      rw [massU, sumW_ind, ih, ih, sumW_congr us fun w => sem_perm_cons s.id w acc φ]
      by_cases hm : mentions s.id φ = true
      · rw [if_pos hm]
      · have e : sumW (fun w => sem ((s.id :: w) ++ acc) φ) us = sumW (fun w => sem (w ++ acc) φ) us :=
          sumW_congr us fun w => sem_unmentioned s.id (w ++ acc) φ (by simpa using hm)
        rw [if_neg hm, e, ← Nat.add_mul, Nat.add_sub_cancel' (h s List.mem_cons_self)]
    | grp ms =>
      have hG : ∀ ms', sumOver ms' (fun m => m.num * massU us (m.id :: acc) φ) =
          sumG (fun w => sem (w ++ acc) φ) us ms' := by
        intro ms'
        induction ms' with
        | nil => rfl
        | cons m ms' ihm => rw [sumOver, sumG, ihm, ih, sumW_congr us fun w => sem_perm_cons m.id w acc φ]
      rw [massU, sumW_grp]
      by_cases hm : ms.any (fun m => mentions m.id φ) = true
      · rw [if_pos hm, hG]
      · rw [if_neg hm, ih]
        refine (sumG_eq _ us fun m hmem => sumW_congr us fun w => ?_).symm
        refine sem_unmentioned m.id (w ++ acc) φ ?_
        simp only [List.any_eq_true, not_exists, not_and, Bool.not_eq_true] at hm
        exact hm m hmem

theorem sumW_true (us : List U) (h : unitsOk us) : sumW (fun _ => true) us = total us := by
  induction us with
  | nil => rfl
  | cons u us ih =>
    cases u with
    | ind s => rw [sumW_ind, ih h.tail, total, U.den, ← Nat.add_mul, Nat.add_sub_cancel' (h s List.mem_cons_self)]
    | grp ms => rw [sumW_grp, sumG_eq _ us fun _ _ => rfl, ih h.tail, total, U.den]

section
variable (ss : List Seed) {φ ψ : L}

theorem specMass_mono (h : ∀ w, sem w φ = true → sem w ψ = true) : specMass ss φ ≤ specMass ss ψ :=
  sumWeights_mono _ _ _ h

theorem specMass_le_total (φ : L) : specMass ss φ ≤ specTotal ss :=
  sumWeights_mono _ _ _ fun _ _ => rfl

theorem specMass_congr (h : ∀ w, sem w φ = sem w ψ) : specMass ss φ = specMass ss ψ :=
  sumW_congr _ h
end

section
variable {ss : List Seed} (hs : seedsOk ss = true)
include hs

theorem seedsOk_nodup : (unitIds (units ss)).Nodup := by
  rw [seedsOk, Bool.and_eq_true, decide_eq_true_eq] at hs; exact hs.1

theorem unitsOk_units : unitsOk (units ss) := by
  intro s hmem
  rw [units, List.mem_append, List.mem_map, List.mem_map] at hmem
  rcases hmem with ⟨s', hs', e⟩ | ⟨g, _, e⟩
  · cases e
    rw [List.mem_filter, Option.isNone_iff_eq_none] at hs'
    rw [seedsOk, Bool.and_eq_true, List.all_eq_true] at hs
    simpa [hs'.2] using hs.2 s hs'.1
  · cases e

theorem mass_eq_spec (φ : L) : mass ss φ = specMass ss φ := by
  rw [mass, massU_eq (unitsOk_units hs)]
  exact sumW_congr _ fun w => by rw [List.append_nil]

theorem specTotal_eq : specTotal ss = total (units ss) :=
  sumW_true _ (unitsOk_units hs)

theorem specMass_le (φ : L) : specMass ss φ ≤ total (units ss) :=
  specTotal_eq hs ▸ specMass_le_total ss φ
end

def covers (p : Proof) (w : List Nat) : Bool := p.all (fun x => w.contains x)

theorem semAll_lits (w : List Nat) (p : Proof) : semAll w (p.map .lit) = covers p w := by
  induction p with
  | nil => rfl
  | cons x p ih => simp only [List.map_cons, semAll, sem, ih, covers, List.all_cons]

theorem sem_conj (w : List Nat) (p : Proof) : sem w (conj p) = covers p w := by
  simp [conj, sem, semAll_lits]

theorem sem_dnf (w : List Nat) (ps : List Proof) : sem w (dnf ps) = ps.any (fun p => covers p w) := by
  rw [dnf, sem]
  induction ps with
  | nil => rfl
  | cons p ps ih => simp only [List.map_cons, semAny, sem_conj, ih, List.any_cons]

theorem le_specMass_dnf (ss : List Seed) {φ : L} {ps : List Proof}
    (h : ∀ w, sem w φ = true → ∃ e ∈ ps, covers e w = true) : specMass ss φ ≤ specMass ss (dnf ps) := by
  apply specMass_mono
  intro w hw
  rw [sem_dnf, List.any_eq_true]
  exact h w hw

theorem semAll_append (w : List Nat) (a b : List L) : semAll w (a ++ b) = (semAll w a && semAll w b) := by
  induction a with
  | nil => rfl
  | cons c a ih => simp only [List.cons_append, semAll, ih, Bool.and_assoc]

/-! ### the bound for one proof -/

theorem unitIds_cons (u : U) (us : List U) : unitIds (u :: us) = U.ids u ++ unitIds us := List.flatMap_cons

theorem sumW_zero (us : List U) : ∀ (f : List Nat → Bool),
    (∀ w, (∀ y ∈ w, y ∈ unitIds us) → f w = false) → sumW f us = 0 := by
  induction us with
  | nil => intro f h; rw [sumW_nil, h [] nofun]; rfl
  | cons u us ih =>
    intro f h
    have hcons : ∀ x ∈ U.ids u, sumW (fun w => f (x :: w)) us = 0 := fun x hx =>
      ih _ fun w hw => h _ fun y hy => by
        rw [unitIds_cons, List.mem_append]
        rcases List.mem_cons.1 hy with rfl | hy
        · exact Or.inl hx
        · exact Or.inr (hw y hy)
    cases u with
    | ind s =>
      rw [sumW_ind, hcons s.id (List.mem_singleton.2 rfl),
        ih f fun w hw => h w fun y hy => by rw [unitIds_cons, List.mem_append]; exact Or.inr (hw y hy)]
      rfl
    | grp ms => rw [sumW_grp, sumG_eq f us fun m hm => hcons m.id (List.mem_map.2 ⟨m, hm, rfl⟩)]; rfl

theorem find?_congr {α} {l : List α} {f g : α → Bool} (h : ∀ a ∈ l, f a = g a) : l.find? f = l.find? g := by
  induction l with
  | nil => rfl
  | cons a l ih =>
    rw [List.find?_cons, List.find?_cons, h a List.mem_cons_self, ih fun b hb => h b (List.mem_cons_of_mem _ hb)]

theorem prodFactors_congr {p p' : Proof} (us : List U) (h : ∀ y ∈ unitIds us, p.contains y = p'.contains y) :
    prodFactors p us = prodFactors p' us := by
  induction us with
  | nil => rfl
  | cons u us ih =>
    rw [unitIds_cons] at h
    rw [prodFactors, prodFactors, ih fun y hy => h y (List.mem_append_right _ hy)]
    congr 1
    have hu : ∀ y ∈ U.ids u, p.contains y = p'.contains y := fun y hy => h y (List.mem_append_left _ hy)
    cases u with
    | ind s => rw [unitFactor, unitFactor, hu s.id (List.mem_singleton.2 rfl)]
    | grp ms =>
      rw [unitFactor, unitFactor, find?_congr fun m hm => hu m.id (List.mem_map.2 ⟨m, hm, rfl⟩)]

theorem covers_cons_filter (p : Proof) (x : Nat) (w : List Nat) :
    covers p (x :: w) = covers (p.filter (fun y => y != x)) w := by
  simp only [covers, List.all_filter, List.contains_cons]
  congr 1; funext y; cases h : (y == x) <;> simp [bne, h]

theorem covers_cons_notin {p : Proof} {x : Nat} (h : p.contains x = false) (w : List Nat) :
    covers p (x :: w) = covers p w := by
  rw [covers_cons_filter, List.filter_eq_self.2]
  intro y hy
  rw [bne_iff_ne]
  rintro rfl
  rw [List.contains_iff_mem.2 hy] at h; cases h

def grpIds : List U → List Nat
  | [] => []
  | .ind _ :: us => grpIds us
  | .grp ms :: us => ms.map (·.id) ++ grpIds us

/-- the worlds containing a proof free of group members weigh at most the product of its seeds' probabilities -/
theorem prod_bound (us : List U) : ∀ (p : Proof), unitsOk us → (unitIds us).Nodup →
    (∀ x ∈ p, x ∉ grpIds us) → sumW (covers p) us ≤ prodFactors p us := by
  induction us with
  | nil => intro p _ _ _; rw [sumW_nil, prodFactors]; split <;> omega
  | cons u us ih =>
    intro p hok hnd hgrp
    rw [unitIds_cons, List.nodup_append] at hnd
    obtain ⟨_, hnd', hdisj⟩ := hnd
    rw [prodFactors, unitFactor.eq_def]
    cases u with
    | ind s =>
      have hsid : s.id ∉ unitIds us := fun hc => hdisj s.id (List.mem_singleton.2 rfl) s.id hc rfl
      rw [sumW_ind]
      dsimp only
      by_cases hin : p.contains s.id = true
      · -- no world of the remaining units contains `s.id`, so the branch `s` false contributes nothing
        have hz : sumW (covers p) us = 0 := sumW_zero us _ fun w hw =>
          List.all_eq_false.2 ⟨s.id, List.contains_iff_mem.1 hin, fun hc => hsid (hw _ (List.contains_iff_mem.1 hc))⟩
        have hf : prodFactors (p.filter (· != s.id)) us = prodFactors p us :=
          prodFactors_congr us fun y hy => by
            have : y ≠ s.id := fun e => hsid (e ▸ hy)
            simp [this]
        rw [if_pos hin, hz, Nat.mul_zero, Nat.add_zero, sumW_congr us (covers_cons_filter p s.id), ← hf]
        exact Nat.mul_le_mul_left _ (ih _ hok.tail hnd' fun x hx => hgrp x (List.mem_filter.1 hx).1)
      · rw [if_neg hin, sumW_congr us (covers_cons_notin (by simpa using hin)), ← Nat.add_mul,
          Nat.add_sub_cancel' (hok s List.mem_cons_self)]
        exact Nat.mul_le_mul_left _ (ih p hok.tail hnd' hgrp)
    | grp ms =>
      have hnot : ∀ m ∈ ms, p.contains m.id = false := fun m hm =>
        Bool.eq_false_iff.2 fun hc => hgrp m.id (List.contains_iff_mem.1 hc)
          (List.mem_append_left _ (List.mem_map.2 ⟨m, hm, rfl⟩))
      dsimp only
      rw [sumW_grp, List.find?_eq_none.2 fun m hm => by rw [hnot m hm]; nofun,
        sumG_eq _ us fun m hm => sumW_congr us (covers_cons_notin (hnot m hm))]
      exact Nat.mul_le_mul_left _ (ih p hok.tail hnd' fun x hx hc => hgrp x hx (List.mem_append_right _ hc))

/-! ### the data structures of the enumeration -/

theorem mem_insSorted (x y : Nat) (l : List Nat) : y ∈ insSorted x l ↔ y = x ∨ y ∈ l := by
  induction l with
  | nil => simp [insSorted]
  | cons a l ih =>
    rw [insSorted]
    by_cases h1 : x < a
    · rw [if_pos h1, List.mem_cons]
    · rw [if_neg h1]
      by_cases h2 : x = a
      · rw [if_pos h2, h2, List.mem_cons, ← or_assoc, or_self]
      · rw [if_neg h2, List.mem_cons, ih, List.mem_cons, or_left_comm]

theorem covers_insSorted (x : Nat) (p : Proof) (w : List Nat) :
    covers (insSorted x p) w = (w.contains x && covers p w) := by
  rw [Bool.eq_iff_iff]
  simp only [covers, List.all_eq_true, Bool.and_eq_true, mem_insSorted, or_imp, forall_and, forall_eq]

theorem covers_subset {a b : Proof} (h : subset a b = true) {w : List Nat} (hb : covers b w = true) :
    covers a w = true := by
  rw [covers, List.all_eq_true] at *
  rw [subset, List.all_eq_true] at h
  exact fun x hx => hb x (List.contains_iff_mem.1 (h x hx))

theorem popMax_none {l : List PState} : popMax l = none ↔ l = [] := by
  cases l with
  | nil => exact ⟨fun _ => rfl, fun _ => rfl⟩
  | cons a l =>
    rw [popMax]
    cases popMax l with
    | none => simp
    | some br => dsimp only; split <;> simp

theorem popMax_cons {a : PState} {l : List PState} {s : PState} {rest : List PState}
    (h : popMax (a :: l) = some (s, rest)) :
    (s = a ∧ rest = l) ∨ ∃ r, popMax l = some (s, r) ∧ rest = a :: r := by
  rw [popMax] at h
  cases hp : popMax l with
  | none => rw [hp] at h; cases h; exact Or.inl ⟨rfl, (popMax_none.1 hp).symm⟩
  | some br =>
    rw [hp] at h
    dsimp only at h
    by_cases hb : better a br.1 = true
    · rw [if_pos hb] at h; cases h; exact Or.inl ⟨rfl, rfl⟩
    · rw [if_neg hb] at h; cases h; exact Or.inr ⟨_, rfl, rfl⟩

theorem popMax_mem {l : List PState} {s : PState} {rest : List PState} (h : popMax l = some (s, rest)) :
    ∀ x, x ∈ l ↔ x = s ∨ x ∈ rest := by
  induction l generalizing rest with
  | nil => cases h
  | cons a l ih =>
    intro x
    rcases popMax_cons h with ⟨rfl, rfl⟩ | ⟨r, hr, rfl⟩
    · exact List.mem_cons
    · rw [List.mem_cons, ih hr, List.mem_cons, or_left_comm]

theorem popMax_sumUb (l : List PState) (s : PState) (rest : List PState) (h : popMax l = some (s, rest)) :
    sumUb l = s.ub + sumUb rest := by
  induction l generalizing rest with
  | nil => cases h
  | cons a l ih =>
    rcases popMax_cons h with ⟨rfl, rfl⟩ | ⟨r, hr, rfl⟩
    · rfl
    · rw [sumUb, ih r hr, sumUb, Nat.add_left_comm]

def PState.sat (w : List Nat) (s : PState) : Bool := covers s.proof w && semAll w s.pending

section
variable (s : PState) (pend cs : List L) (seq : Nat)

theorem orBranches_spec :
    ∀ s' ∈ (orBranches s pend cs seq).1, ∃ c ∈ cs, s'.pending = c :: pend ∧ s'.proof = s.proof ∧ s'.ub = s.ub := by
  induction cs generalizing seq with
  | nil => nofun
  | cons c cs ih =>
    intro s' hs'
    rcases List.mem_cons.1 hs' with rfl | hs'
    · exact ⟨c, List.mem_cons_self, rfl, rfl, rfl⟩
    · obtain ⟨c', hc', h⟩ := ih (seq + 1) s' hs'
      exact ⟨c', List.mem_cons_of_mem _ hc', h⟩

theorem orBranches_sat (w : List Nat) :
    (orBranches s pend cs seq).1.any (·.sat w) = (covers s.proof w && semAny w cs && semAll w pend) := by
  induction cs generalizing seq with
  | nil => rw [semAny, Bool.and_false, Bool.false_and]; rfl
  | cons c cs ih =>
    rw [orBranches, List.any_cons, ih (seq + 1), PState.sat, semAll, semAny]
    cases covers s.proof w <;> cases sem w c <;> cases semAll w pend <;> simp
end

/-- in both outcomes of `emit` the emitted list afterwards (`none`: unchanged) consists of old members and `p`, and
    still covers every world that an old member or `p` covers -/
theorem emit_spec (em : List Proof) (p : Proof) :
    (∀ e' ∈ (emit em p).getD em, e' = p ∨ e' ∈ em) ∧
    ∀ e, e = p ∨ e ∈ em → ∀ w, covers e w = true → ∃ e' ∈ (emit em p).getD em, covers e' w = true := by
  unfold emit
  by_cases hc : em.any (fun e => subset e p) = true
  · rw [if_pos hc]
    obtain ⟨e0, he0, hsub⟩ := List.any_eq_true.1 hc
    refine ⟨fun e' he' => Or.inr he', fun e he w hw => ?_⟩
    rcases he with rfl | he
    · exact ⟨e0, he0, covers_subset hsub hw⟩
    · exact ⟨e, he, hw⟩
  · rw [if_neg hc]
    have hp : p ∈ em.filter (fun e => !subset p e) ++ [p] := List.mem_append_right _ (List.mem_singleton.2 rfl)
    refine ⟨fun e' he' => ?_, fun e he w hw => ?_⟩
    · rcases List.mem_append.1 he' with h | h
      · exact Or.inr (List.mem_filter.1 h).1
      · exact Or.inl (List.mem_singleton.1 h)
    · rcases he with rfl | he
      · exact ⟨e, hp, hw⟩
      · cases hs : subset p e
        · exact ⟨e, List.mem_append_left _ (List.mem_filter.2 ⟨he, by rw [hs]; rfl⟩), hw⟩
        · exact ⟨p, hp, covers_subset hs hw⟩

theorem prodFactors_nil (us : List U) : prodFactors [] us = total us := by
  induction us with
  | nil => rfl
  | cons u us ih =>
    rw [prodFactors, total, ih]
    cases u with
    | ind s => rfl
    | grp ms =>
      have : ms.find? (fun m => ([] : Proof).contains m.id) = none := List.find?_eq_none.2 fun _ _ => Bool.false_ne_true
      rw [unitFactor, this, U.den]

theorem proofMass_some {ss : List Seed} {p : Proof} {m : Nat} (h : proofMass ss p = some m) :
    m = prodFactors p (units ss) := by
  unfold proofMass at h
  split at h
  · exact (Option.some.inj h).symm
  · cases h

theorem allLitsL_append (q : Nat → Bool) (a b : List L) :
    allLitsL q (a ++ b) = (allLitsL q a && allLitsL q b) := by
  induction a with
  | nil => rfl
  | cons c a ih => simp only [List.cons_append, allLitsL, ih, Bool.and_assoc]

theorem allLitsL_mem {q : Nat → Bool} {cs : List L} (h : allLitsL q cs = true) : ∀ c ∈ cs, allLits q c = true := by
  induction cs with
  | nil => nofun
  | cons c cs ih =>
    rw [allLitsL, Bool.and_eq_true] at h
    exact List.forall_mem_cons.2 ⟨h.1, ih h.2⟩

/-! ### the cover invariant -/

/-- the cover invariant of `enumerate_proofs` for the root `φ`; `q` is a predicate all literals of `φ` satisfy -/
structure Inv (ss : List Seed) (q : Nat → Bool) (φ : L) (st : EState) : Prop where
  cover : ∀ w, sem w φ = true →
    (∃ e ∈ st.emitted, covers e w = true) ∨ (∃ s ∈ st.frontier, s.sat w = true)
  soundE : ∀ e ∈ st.emitted, ∀ w, covers e w = true → sem w φ = true
  soundF : ∀ s ∈ st.frontier, ∀ w, s.sat w = true → sem w φ = true
  ub : ∀ s ∈ st.frontier, proofMass ss s.proof = some s.ub
  litsF : ∀ s ∈ st.frontier, (∀ x ∈ s.proof, q x = true) ∧ allLitsL q s.pending = true
  litsE : ∀ e ∈ st.emitted, ∀ x ∈ e, q x = true

def EnumSpec (ss : List Seed) (q : Nat → Bool) (φ : L) : EnumOut → Prop
  | .ok proofs res =>
      (∀ e ∈ proofs, ∀ w, covers e w = true → sem w φ = true) ∧ (∀ e ∈ proofs, ∀ x ∈ e, q x = true) ∧
      (res = .Exhausted → ∀ w, sem w φ = true → ∃ e ∈ proofs, covers e w = true) ∧
      (∀ m, res = .Bounded m → specMass ss φ ≤ specMass ss (dnf proofs) + m)
  | _ => True

section
variable {ss : List Seed} {q : Nat → Bool} {φ : L}

theorem expand_spec {s : PState} {f : L} {pend : List L} {seq : Nat} {new : List PState} {n : Nat}
    (h : expand ss s f pend seq = .push new n) (hub : proofMass ss s.proof = some s.ub)
    (hq : (∀ x ∈ s.proof, q x = true) ∧ allLits q f = true ∧ allLitsL q pend = true) :
    (∀ w, new.any (·.sat w) = (covers s.proof w && sem w f && semAll w pend)) ∧
    (∀ s' ∈ new, proofMass ss s'.proof = some s'.ub) ∧
    (∀ s' ∈ new, (∀ x ∈ s'.proof, q x = true) ∧ allLitsL q s'.pending = true) := by
  obtain ⟨hq1, hq2, hq3⟩ := hq
  have single : ∀ (s' : PState) (w : List Nat), [s'].any (·.sat w) = s'.sat w := fun _ _ => Bool.or_false _
  cases f with
  | fls => cases h; exact ⟨fun w => by rw [sem, Bool.and_false, Bool.false_and]; rfl, nofun, nofun⟩
  | tru =>
    cases h
    exact ⟨fun w => by rw [single, sem, Bool.and_true]; rfl, List.forall_mem_singleton.2 hub,
      List.forall_mem_singleton.2 ⟨hq1, hq3⟩⟩
  | lit x =>
    unfold expand at h
    dsimp only at h
    cases hm : proofMass ss (insSorted x s.proof) with
    | none => rw [hm] at h; cases h
    | some m =>
      rw [hm] at h
      cases h
      refine ⟨fun w => ?_, List.forall_mem_singleton.2 hm, List.forall_mem_singleton.2 ⟨fun y hy => ?_, hq3⟩⟩
      · rw [single, PState.sat, covers_insSorted, sem, Bool.and_comm (w.contains x)]
      · rcases (mem_insSorted x y s.proof).1 hy with rfl | hy
        · exact hq2
        · exact hq1 y hy
  | not c => cases h
  | and cs =>
    cases h
    refine ⟨fun w => ?_, List.forall_mem_singleton.2 hub, List.forall_mem_singleton.2 ⟨hq1, ?_⟩⟩
    · rw [single, PState.sat, semAll_append, sem, Bool.and_assoc]
    · rw [allLitsL_append, hq3, Bool.and_true]; exact hq2
  | or cs =>
    unfold expand at h
    dsimp only at h
    have hb := orBranches_spec s pend cs seq
    have hs := orBranches_sat s pend cs seq
    rcases orBranches s pend cs seq with ⟨bs, k⟩
    cases h
    refine ⟨hs, fun s' hs' => ?_, fun s' hs' => ?_⟩
    · obtain ⟨c, _, _, hp, hu⟩ := hb s' hs'
      rw [hp, hu]; exact hub
    · obtain ⟨c, hc, hpend, hp, _⟩ := hb s' hs'
      rw [hp, hpend, allLitsL, Bool.and_eq_true]
      exact ⟨hq1, allLitsL_mem hq2 c hc, hq3⟩

theorem Inv.init (ss : List Seed) (hφ : allLits q φ = true) :
    Inv ss q φ { frontier := [{ pending := [φ], proof := [], ub := total (units ss), seq := 0 }], emitted := [], seq := 0 } := by
  have hsat : ∀ w, PState.sat w { pending := [φ], proof := [], ub := total (units ss), seq := 0 } = sem w φ :=
    fun w => by rw [PState.sat, semAll, semAll, Bool.and_true]; rfl
  refine ⟨fun w hw => Or.inr ⟨_, List.mem_singleton.2 rfl, (hsat w).trans hw⟩, nofun,
    List.forall_mem_singleton.2 fun w hw => (hsat w).symm.trans hw, List.forall_mem_singleton.2 ?_,
    List.forall_mem_singleton.2 ⟨nofun, by rw [allLitsL, hφ]; rfl⟩, nofun⟩
  rw [proofMass, prodFactors_nil]; rfl

/-- preservation in the form every branch of the loop body uses: the popped state `s` gives way to `new`, the emitted
    list to `em` -/
theorem Inv.step {st : EState} {s : PState} {rest new : List PState} {em : List Proof} (k : Nat)
    (hinv : Inv ss q φ st) (hpop : popMax st.frontier = some (s, rest))
    (h1 : ∀ w, s.sat w = true → (∃ e ∈ em, covers e w = true) ∨ (∃ s' ∈ new, s'.sat w = true))
    (h2 : ∀ e ∈ st.emitted, ∀ w, covers e w = true → ∃ e' ∈ em, covers e' w = true)
    (h3 : ∀ e' ∈ em, (∀ w, covers e' w = true → sem w φ = true) ∧ ∀ x ∈ e', q x = true)
    (h4 : ∀ s' ∈ new, (∀ w, s'.sat w = true → s.sat w = true) ∧ proofMass ss s'.proof = some s'.ub ∧
        (∀ x ∈ s'.proof, q x = true) ∧ allLitsL q s'.pending = true) :
    Inv ss q φ { frontier := new ++ rest, emitted := em, seq := k } := by
  have hm := popMax_mem hpop
  have hs : s ∈ st.frontier := (hm s).2 (Or.inl rfl)
  have hr : ∀ x ∈ rest, x ∈ st.frontier := fun x hx => (hm x).2 (Or.inr hx)
  refine ⟨fun w hw => ?_, fun e he => (h3 e he).1,
    List.forall_mem_append.2 ⟨fun s' h w hsat => hinv.soundF s hs w ((h4 s' h).1 w hsat), fun s' h => hinv.soundF s' (hr s' h)⟩,
    List.forall_mem_append.2 ⟨fun s' h => (h4 s' h).2.1, fun s' h => hinv.ub s' (hr s' h)⟩,
    List.forall_mem_append.2 ⟨fun s' h => (h4 s' h).2.2, fun s' h => hinv.litsF s' (hr s' h)⟩,
    fun e he => (h3 e he).2⟩
  rcases hinv.cover w hw with ⟨e, he, hc⟩ | ⟨s0, hs0, hsat⟩
  · exact Or.inl (h2 e he w hc)
  · rcases (hm s0).1 hs0 with rfl | hin
    · exact (h1 w hsat).imp_right fun ⟨s', hs', hsat'⟩ => ⟨s', List.mem_append_left _ hs', hsat'⟩
    · exact Or.inr ⟨s0, List.mem_append_right _ hin, hsat⟩

theorem sumUb_eq {l : List PState} (h : ∀ s ∈ l, proofMass ss s.proof = some s.ub) :
    ((l.map (·.proof)).map (prodFactors · (units ss))).sum = sumUb l := by
  induction l with
  | nil => rfl
  | cons s l ih =>
    rw [List.forall_mem_cons] at h
    rw [List.map_cons, List.map_cons, List.sum_cons, ih h.2, sumUb, proofMass_some h.1]

variable (hs : seedsOk ss = true)
include hs

/-- union bound over proofs free of group members: the worlds covering one of `ps` weigh at most `Σ P(p)` -/
theorem sumW_any_covers_le {ps : List Proof} (hps : ∀ p ∈ ps, ∀ x ∈ p, x ∉ grpIds (units ss)) :
    sumW (fun w => ps.any (covers · w)) (units ss) ≤ (ps.map (prodFactors · (units ss))).sum := by
  induction ps with
  | nil => exact Nat.le_of_eq (sumWeights_false _)
  | cons p ps ih =>
    refine Nat.le_trans (sumWeights_le_add _ (covers p) _ (fun w => ps.any (covers · w)) fun w hw => ?_) ?_
    · rwa [List.any_cons, Bool.or_eq_true] at hw
    · rw [List.map_cons, List.sum_cons]
      exact Nat.add_le_add (prod_bound _ p (unitsOk_units hs) (seedsOk_nodup hs) (hps p List.mem_cons_self))
        (ih fun p' hp' => hps p' (List.mem_cons_of_mem _ hp'))

theorem specMass_le_add_proofs {φ ψ : L} {ps : List Proof} (hps : ∀ p ∈ ps, ∀ x ∈ p, x ∉ grpIds (units ss))
    (h : ∀ w, sem w φ = true → sem w ψ = true ∨ ∃ p ∈ ps, covers p w = true) :
    specMass ss φ ≤ specMass ss ψ + (ps.map (prodFactors · (units ss))).sum :=
  Nat.le_trans (sumWeights_le_add _ _ _ (fun w => ps.any (covers · w)) fun w hw =>
      (h w hw).imp_right List.any_eq_true.2)
    (Nat.add_le_add_left (sumW_any_covers_le hs hps) _)

variable (hq : ∀ x, q x = true → x ∉ grpIds (units ss))
include hq

theorem Inv.bound {st : EState} (hinv : Inv ss q φ st) :
    specMass ss φ ≤ specMass ss (dnf st.emitted) + min (sumUb st.frontier) (total (units ss)) := by
  have h1 := specMass_le_add_proofs hs (φ := φ) (ψ := dnf st.emitted) (ps := st.frontier.map (·.proof))
    (fun p hp x hx => by
      obtain ⟨s, hs', rfl⟩ := List.mem_map.1 hp
      exact hq x ((hinv.litsF s hs').1 x hx))
    fun w hw => by
      rw [sem_dnf, List.any_eq_true]
      refine (hinv.cover w hw).imp_right fun ⟨s, hs', hsat⟩ => ⟨_, List.mem_map.2 ⟨s, hs', rfl⟩, ?_⟩
      rw [PState.sat, Bool.and_eq_true] at hsat
      exact hsat.1
  rw [sumUb_eq hinv.ub] at h1
  rw [Nat.min_def]
  split
  · exact h1
  · exact Nat.le_trans (specMass_le hs φ) (Nat.le_add_left _ _)

theorem enumLoop_spec {cap : Nat} {clock : Nat → Nat} {deadline : Nat} :
    ∀ fuel st i, Inv ss q φ st → EnumSpec ss q φ (enumLoop ss cap clock deadline fuel st i).1 := by
  intro fuel
  induction fuel with
  | zero => intro st i _; trivial
  | succ fuel ih =>
    intro st i hinv
    rw [enumLoop]
    cases hpop : popMax st.frontier with
    | none =>
      refine ⟨hinv.soundE, hinv.litsE, fun _ w hw => (hinv.cover w hw).resolve_right ?_, nofun⟩
      rw [popMax_none.1 hpop]; nofun
    | some sr =>
      obtain ⟨s, rest⟩ := sr
      dsimp only
      have hsin : s ∈ st.frontier := (popMax_mem hpop s).2 (Or.inl rfl)
      by_cases hdl : deadline ≤ clock i
      · rw [if_pos hdl]; exact ⟨hinv.soundE, hinv.litsE, nofun, nofun⟩
      rw [if_neg hdl]
      cases hpend : s.pending with
      | nil =>
        dsimp only
        have hsat : ∀ w, s.sat w = covers s.proof w := fun w => by rw [PState.sat, hpend, semAll, Bool.and_true]
        -- a complete proof leaves the frontier for good: the emitted list covers its worlds in both outcomes of `emit`
        have hinv' : Inv ss q φ { st with frontier := rest, emitted := (emit st.emitted s.proof).getD st.emitted } := by
          obtain ⟨hA, hB⟩ := emit_spec st.emitted s.proof
          refine Inv.step (new := []) st.seq hinv hpop
            (fun w hw => Or.inl (hB _ (Or.inl rfl) w ((hsat w).symm.trans hw))) (fun e he => hB e (Or.inr he))
            (fun e' he' => ?_) nofun
          rcases hA e' he' with rfl | h
          · exact ⟨fun w hc => hinv.soundF s hsin w ((hsat w).trans hc), (hinv.litsF s hsin).1⟩
          · exact ⟨hinv.soundE e' h, hinv.litsE e' h⟩
        cases hem : emit st.emitted s.proof with
        | none => rw [hem] at hinv'; exact ih _ _ hinv'
        | some em =>
          rw [hem] at hinv'
          dsimp only
          by_cases hcap : em.length = cap
          · rw [if_pos hcap]
            have hb := Inv.bound hs hq hinv'
            refine ⟨hinv'.soundE, hinv'.litsE, nofun, fun m hm => ?_⟩
            cases hm
            exact hb
          · rw [if_neg hcap]; exact ih _ _ hinv'
      | cons f pend =>
        dsimp only
        cases hex : expand ss s f pend st.seq with
        | err r => trivial
        | push new k =>
          have hl := hinv.litsF s hsin
          rw [hpend, allLitsL, Bool.and_eq_true] at hl
          obtain ⟨hx1, hx2, hx3⟩ := expand_spec hex (hinv.ub s hsin) ⟨hl.1, hl.2⟩
          have hsat : ∀ w, s.sat w = new.any (·.sat w) := fun w => by
            rw [hx1, PState.sat, hpend, semAll, Bool.and_assoc]
          refine ih _ _ (Inv.step k hinv hpop
            (fun w hw => Or.inr (List.any_eq_true.1 ((hsat w).symm.trans hw))) (fun e he w hc => ⟨e, he, hc⟩)
            (fun e he => ⟨hinv.soundE e he, hinv.litsE e he⟩) fun s' hs' => ⟨fun w hsat' => ?_, hx2 s' hs', hx3 s' hs'⟩)
          exact (hsat w).trans (List.any_eq_true.2 ⟨s', hs', hsat'⟩)

theorem enumerateProofs_spec (hφ : allLits q φ = true) (cap : Nat) (clock : Nat → Nat) (deadline fuel i : Nat) :
    EnumSpec ss q φ (enumerateProofs ss φ cap clock deadline fuel i).1 := by
  unfold enumerateProofs
  by_cases hc : cap = 0
  · rw [if_pos hc]
    refine ⟨nofun, nofun, nofun, fun m hm => ?_⟩
    cases hm
    exact Nat.le_trans (specMass_le hs φ) (Nat.le_add_left _ _)
  · rw [if_neg hc]
    exact enumLoop_spec hs hq fuel _ i (Inv.init ss hφ)
end

theorem mem_grpIds {x : Nat} {us : List U} (h : x ∈ grpIds us) : ∃ ms, U.grp ms ∈ us ∧ ∃ m ∈ ms, m.id = x := by
  induction us with
  | nil => cases h
  | cons u us ih =>
    cases u with
    | ind s =>
      obtain ⟨ms, hms, hm⟩ := ih h
      exact ⟨ms, List.mem_cons_of_mem _ hms, hm⟩
    | grp ms =>
      rcases List.mem_append.1 h with h | h
      · exact ⟨ms, List.mem_cons_self, List.mem_map.1 h⟩
      · obtain ⟨ms', hms, hm⟩ := ih h
        exact ⟨ms', List.mem_cons_of_mem _ hms, hm⟩

theorem lookup_some_of_mem {ss : List Seed} {m : Seed} (hm : m ∈ ss) :
    ∃ s, lookup ss m.id = some s ∧ s ∈ ss ∧ s.id = m.id := by
  unfold lookup
  cases h : ss.find? (fun s => s.id == m.id) with
  | none => exact absurd (beq_self_eq_true m.id) (List.find?_eq_none.1 h m hm)
  | some s =>
    have hid := List.find?_some h
    exact ⟨s, rfl, List.mem_of_find?_eq_some h, beq_iff_eq.1 hid⟩

theorem nonexcl_notin_grp {ss : List Seed} (hs : seedsOk ss = true) (x : Nat) (hx : (!isExclusive ss x) = true) :
    x ∉ grpIds (units ss) := by
  intro hin
  obtain ⟨ms, hms, m, hm, rfl⟩ := mem_grpIds hin
  have hnd := seedsOk_nodup hs
  rw [units] at hms hnd
  rw [unitIds, List.flatMap_append, List.nodup_append] at hnd
  -- the group unit lies in the second half of `units ss`, the seed `lookup` finds for `m.id` in the first
  rcases List.mem_append.1 hms with h | h
  · obtain ⟨_, _, e⟩ := List.mem_map.1 h; cases e
  · have hmss : m ∈ ss := by
      obtain ⟨g, _, e⟩ := List.mem_map.1 h
      cases e
      exact (List.mem_filter.1 hm).1
    obtain ⟨s, hl, hsin, hsid⟩ := lookup_some_of_mem hmss
    rw [isExclusive, hl, Bool.not_eq_true', Option.isSome_eq_false_iff, Option.isNone_iff_eq_none] at hx
    refine hnd.2.2 m.id (List.mem_flatMap.2 ⟨.ind s, List.mem_map.2 ⟨s, List.mem_filter.2 ⟨hsin, ?_⟩, rfl⟩, ?_⟩) m.id
      (List.mem_flatMap.2 ⟨_, h, List.mem_map.2 ⟨m, hm, rfl⟩⟩) rfl
    · rw [hx]; rfl
    · rw [← hsid]; exact List.mem_singleton.2 rfl

/-! ### the interval -/

section
variable {ss : List Seed} {q : Nat → Bool} {φ : L} {proofs : List Proof} {residual : Residual}

theorem EnumSpec.take_le (h : EnumSpec ss q φ (.ok proofs residual)) (n : Nat) :
    specMass ss (dnf (proofs.take n)) ≤ specMass ss φ := by
  apply specMass_mono
  intro w hw
  rw [sem_dnf, List.any_eq_true] at hw
  obtain ⟨e, he, hc⟩ := hw
  exact h.1 e (List.mem_of_mem_take he) w hc

theorem EnumSpec.exhausted {k : Nat} (h : EnumSpec ss q φ (.ok proofs .Exhausted)) (hlen : proofs.length ≤ k) :
    specMass ss (dnf (proofs.take (min proofs.length k))) = specMass ss φ := by
  apply Nat.le_antisymm (h.take_le _)
  rw [Nat.min_eq_left hlen, List.take_length]
  exact le_specMass_dnf ss (h.2.2.1 rfl)

theorem probeMass_eq {l : List Proof} {pm : Nat} (h : probeMass ss l = some pm) :
    pm = (l.map (prodFactors · (units ss))).sum := by
  induction l generalizing pm with
  | nil => cases h; rfl
  | cons p l ih =>
    rw [probeMass] at h
    split at h
    · rename_i a b h1 h2
      cases h
      rw [List.map_cons, List.sum_cons, proofMass_some h1, ih h2]
    · cases h

theorem intervalFromEnumeration_interval {lower rc lo hi : Nat}
    (h : intervalFromEnumeration ss lower proofs rc residual = .interval lo hi) :
    lo = lower ∧ ∃ fm pm, (residual = .Exhausted ∧ fm = 0 ∨ residual = .Bounded fm) ∧
      probeMass ss (proofs.drop rc) = some pm ∧ hi = max lower (min (lower + pm + fm) (total (units ss))) := by
  unfold intervalFromEnumeration at h
  dsimp only at h
  split at h
  · cases h
  · rename_i fm hfm
    cases hpm : probeMass ss (proofs.drop rc) with
    | none => rw [hpm] at h; cases h
    | some pm =>
      rw [hpm] at h
      dsimp only at h
      split at h
      · cases h
        refine ⟨rfl, fm, pm, ?_, rfl, rfl⟩
        cases residual <;> cases hfm
        · exact Or.inl ⟨rfl, rfl⟩
        · exact Or.inr rfl
      · cases h

theorem interval_sound (hs : seedsOk ss = true) (hq : ∀ x, q x = true → x ∉ grpIds (units ss))
    (hspec : EnumSpec ss q φ (.ok proofs residual)) {rc lo hi : Nat}
    (h : intervalFromEnumeration ss (mass ss (dnf (proofs.take rc))) proofs rc residual = .interval lo hi) :
    lo = mass ss (dnf (proofs.take rc)) ∧ lo ≤ specMass ss φ ∧ specMass ss φ ≤ hi := by
  obtain ⟨rfl, fm, pm, hres, hpm, rfl⟩ := intervalFromEnumeration_interval h
  have hlow := hspec.take_le rc
  have h1 : specMass ss φ ≤ specMass ss (dnf proofs) + fm := by
    rcases hres with ⟨rfl, rfl⟩ | rfl
    · exact le_specMass_dnf ss (hspec.2.2.1 rfl)
    · exact hspec.2.2.2 fm rfl
  -- `P(⋁ proofs) ≤ P(⋁ first rc) + Σ P(rest)`
  have h2 := specMass_le_add_proofs hs (φ := dnf proofs) (ψ := dnf (proofs.take rc)) (ps := proofs.drop rc)
    (fun p hp x hx => hq x (hspec.2.1 p (List.mem_of_mem_drop hp) x hx)) fun w hw => by
      rw [sem_dnf, ← List.take_append_drop rc proofs, List.any_append, Bool.or_eq_true] at hw
      rw [sem_dnf]
      exact hw.imp_right List.any_eq_true.1
  rw [← probeMass_eq hpm] at h2
  rw [mass_eq_spec hs]
  exact ⟨rfl, hlow, Nat.le_trans (Nat.le_min.2 ⟨Nat.le_trans h1 (Nat.add_le_add_right h2 fm), specMass_le hs φ⟩)
    (Nat.le_max_right _ _)⟩
end

/-! ### the controller -/

/-- what the controller carries between iterations is sound -/
def CtlOk (ss : List Seed) (φ : L) (st : Ctl) : Prop :=
  (∀ l, st.lower = some l → l ≤ specMass ss φ) ∧
  (∀ lo hi, st.last = some (lo, hi) → lo ≤ specMass ss φ ∧ specMass ss φ ≤ hi)

/-- the results the controller can return: two certified `Exact` kinds, two certified `Bounded` kinds, the explicit
    refusal `NeedsExact`, or `Fuel` when the model runs out of fuel -/
def certKind : Result → Prop
  | .Exact _ _ r _ => r = .TopKExhausted ∨ r = .ExactSdd
  | .Bounded _ _ d r _ => (d = .Alert ∧ r = .LowerBoundCrossedThreshold) ∨ (d = .NoAlert ∧ r = .UpperBoundBelowThreshold)
  | .NeedsExact _ _ _ _ => True
  | .Fuel => True

/-- the top-k stage of `evaluateHybrid`: skipped unless the lineage is monotone and free of exclusive seeds -/
def topkStage (ss : List Seed) (cfg : Config) (φ : L) (clock : Nat → Nat) (oracle : SddOracle) (fuel : Nat) :
    Option Result × Ctl :=
  if (metadata ss φ).monotone && !(metadata ss φ).hasExclusive then
    topkLoop ss cfg φ clock oracle fuel (clock 0 + cfg.b1) (cfg.kMax + 1) cfg.kInit { clk := { i := 1 } }
  else (none, { clk := { i := 1 } })

section
variable {ss : List Seed} {cfg : Config} {φ : L} {clock : Nat → Nat} {oracle : SddOracle} {fuel deadline k : Nat}
  {proofs : List Proof} {residual : Residual} {rc wmc gain : Nat} {st : Ctl} {clk3 : Clk}

theorem retainedWmc_some {nb v : Nat} (h : (retainedWmc ss proofs clock deadline oracle nb clk3).1 = some v) :
    v = mass ss (dnf proofs) := by
  unfold retainedWmc at h
  split at h
  · dsimp only at h
    split at h
    · exact (Option.some.inj h).symm
    · cases h
  · cases h

theorem sddStage_ok {c c' : Clk} {p : Nat} (h : sddStage ss cfg φ clock oracle c = (.ok p, c')) : p = mass ss φ := by
  unfold sddStage at h
  dsimp only at h
  split at h
  · cases h
  · split at h <;> cases h
    rfl

/-- the control flow of `decideIter` once there is an interval: three tests that return a result, then the
    escalation test; `a`, `b` are the two controller states that can be left behind -/
theorem iterOut_chain {c1 c2 c3 c4 c5 : Prop} [Decidable c1] [Decidable c2] [Decidable c3] [Decidable c4] [Decidable c5]
    {r1 r2 r3 : Result} {a b : Ctl} {o : IterOut × Ctl}
    (h : (if c1 then (IterOut.ret r1, b) else if c2 then (.ret r2, b) else if c3 then (.ret r3, b)
          else if c4 then (.brk, a) else if c5 then (.brk, b) else (.next, b)) = o) :
    (o.2 = a ∨ o.2 = b) ∧ ∀ r, o.1 = .ret r → c1 ∧ r = r1 ∨ c2 ∧ r = r2 ∨ c3 ∧ r = r3 := by
  subst h
  by_cases h1 : c1
  · rw [if_pos h1]; exact ⟨Or.inr rfl, fun r hr => Or.inl ⟨h1, (IterOut.ret.inj hr).symm⟩⟩
  rw [if_neg h1]
  by_cases h2 : c2
  · rw [if_pos h2]; exact ⟨Or.inr rfl, fun r hr => Or.inr (Or.inl ⟨h2, (IterOut.ret.inj hr).symm⟩)⟩
  rw [if_neg h2]
  by_cases h3 : c3
  · rw [if_pos h3]; exact ⟨Or.inr rfl, fun r hr => Or.inr (Or.inr ⟨h3, (IterOut.ret.inj hr).symm⟩)⟩
  rw [if_neg h3]
  by_cases h4 : c4
  · rw [if_pos h4]; exact ⟨Or.inl rfl, fun _ => IterOut.noConfusion⟩
  rw [if_neg h4]
  by_cases h5 : c5
  · rw [if_pos h5]; exact ⟨Or.inr rfl, fun _ => IterOut.noConfusion⟩
  · rw [if_neg h5]; exact ⟨Or.inr rfl, fun _ => IterOut.noConfusion⟩

theorem decideIter_cases {o : IterOut × Ctl}
    (h : decideIter ss cfg clock deadline k proofs residual rc wmc gain st clk3 = o) :
    o.2.lower = some wmc ∧
    ((∃ lo hi, intervalFromEnumeration ss wmc proofs rc residual = .interval lo hi ∧ o.2.last = some (lo, hi) ∧
      ∀ r, o.1 = .ret r →
        (residual = .Exhausted ∧ proofs.length ≤ k ∧
          ∃ m, r = .Exact wmc (decide' cfg (total (units ss)) wmc) .TopKExhausted m) ∨
        (geThr cfg (total (units ss)) wmc = true ∧ ∃ m, r = .Bounded lo hi .Alert .LowerBoundCrossedThreshold m) ∨
        (ltThr cfg (total (units ss)) hi = true ∧ ∃ m, r = .Bounded lo hi .NoAlert .UpperBoundBelowThreshold m)) ∨
      o.2.last = st.last ∧ ∀ r, o.1 ≠ .ret r) := by
  unfold decideIter at h
  generalize intervalFromEnumeration ss wmc proofs rc residual = iv at h ⊢
  cases iv with
  | noInterval | err _ => subst h; exact ⟨rfl, Or.inr ⟨rfl, fun _ => IterOut.noConfusion⟩⟩
  | interval lo hi =>
    dsimp only at h
    obtain ⟨hst, hret⟩ := iterOut_chain h
    have hl : o.2.lower = some wmc ∧ o.2.last = some (lo, hi) := by
      rcases hst with e | e <;> rw [e] <;> exact ⟨rfl, rfl⟩
    refine ⟨hl.1, Or.inl ⟨lo, hi, rfl, hl.2, fun r hr => (hret r hr).imp (fun ⟨hfe, e⟩ => ?_)
      (Or.imp (fun ⟨hc, e⟩ => ⟨hc, _, e⟩) fun ⟨hc, e⟩ => ⟨hc, _, e⟩)⟩⟩
    rw [Bool.and_eq_true, beq_iff_eq, decide_eq_true_eq] at hfe
    exact ⟨hfe.1, hfe.2, _, e⟩

theorem decideIter_kind {o : IterOut × Ctl}
    (h : decideIter ss cfg clock deadline k proofs residual rc wmc gain st clk3 = o) {r : Result} (hr : o.1 = .ret r) :
    certKind r := by
  rcases (decideIter_cases h).2 with ⟨_, _, _, _, hret⟩ | ⟨_, hno⟩
  · rcases hret r hr with ⟨_, _, m, rfl⟩ | ⟨_, m, rfl⟩ | ⟨_, m, rfl⟩
    · exact Or.inl rfl
    · exact Or.inl ⟨rfl, rfl⟩
    · exact Or.inr ⟨rfl, rfl⟩
  · exact absurd hr (hno r)

theorem decide'_sound (cfg : Config) (T m : Nat) :
    (decide' cfg T m = .Alert → cfg.tn * T ≤ m * cfg.cd) ∧
    (decide' cfg T m = .NoAlert → m * cfg.cd < cfg.tn * T) ∧ decide' cfg T m ≠ .Indeterminate := by
  unfold decide' geThr
  by_cases h : cfg.tn * T ≤ m * cfg.cd
  · rw [if_pos (decide_eq_true h)]; exact ⟨fun _ => h, nofun, nofun⟩
  · rw [if_neg (by simpa using h)]; exact ⟨nofun, fun _ => Nat.lt_of_not_le h, nofun⟩

theorem soundResult_exact (hs : seedsOk ss = true) (r : Reason) (m : Metrics) :
    soundResult ss cfg φ (.Exact (specMass ss φ) (decide' cfg (total (units ss)) (specMass ss φ)) r m) := by
  unfold soundResult
  rw [specTotal_eq hs]
  exact ⟨rfl, decide'_sound cfg _ _⟩

theorem decideIter_spec (hs : seedsOk ss = true) {q : Nat → Bool} (hq : ∀ x, q x = true → x ∉ grpIds (units ss))
    (hspec : EnumSpec ss q φ (.ok proofs residual)) (hst : CtlOk ss φ st) {o : IterOut × Ctl}
    (h : decideIter ss cfg clock deadline k proofs residual (min proofs.length k)
      (mass ss (dnf (proofs.take (min proofs.length k)))) gain st clk3 = o) :
    CtlOk ss φ o.2 ∧ ∀ r, o.1 = .ret r → soundResult ss cfg φ r := by
  have hlow : mass ss (dnf (proofs.take (min proofs.length k))) ≤ specMass ss φ := by
    rw [mass_eq_spec hs]; exact hspec.take_le _
  obtain ⟨hlower, hc⟩ := decideIter_cases h
  have hL : ∀ l, o.2.lower = some l → l ≤ specMass ss φ := by
    intro l hl; rw [hlower] at hl; cases hl; exact hlow
  rcases hc with ⟨lo, hi, hint, hlast, hret⟩ | ⟨hlast, hno⟩
  · obtain ⟨_, h1, h2⟩ := interval_sound hs hq hspec hint
    refine ⟨⟨hL, fun lo' hi' hl => ?_⟩, fun r hr => ?_⟩
    · rw [hlast] at hl; cases hl; exact ⟨h1, h2⟩
    · rcases hret r hr with ⟨rfl, hlen, m, rfl⟩ | ⟨hge, m, rfl⟩ | ⟨hlt, m, rfl⟩
      · rw [mass_eq_spec hs, hspec.exhausted hlen]
        exact soundResult_exact hs _ m
      · rw [geThr, decide_eq_true_eq] at hge
        unfold soundResult
        rw [specTotal_eq hs]
        exact ⟨h1, h2, fun _ => Nat.le_trans hge (Nat.mul_le_mul_right _ hlow), nofun, nofun⟩
      · rw [ltThr, decide_eq_true_eq] at hlt
        unfold soundResult
        rw [specTotal_eq hs]
        exact ⟨h1, h2, nofun, fun _ => Nat.lt_of_le_of_lt (Nat.mul_le_mul_right _ h2) hlt, nofun⟩
  · exact ⟨⟨hL, by rw [hlast]; exact hst.2⟩, fun r hr => absurd hr (hno r)⟩

theorem evaluateTopk_ok {budget nb lower lo hi ku gain : Nat} {fe cap : Bool}
    (h : evaluateTopk ss φ k budget nb clock oracle fuel = .ok lower lo hi ku fe cap gain) :
    allLits (fun s => !isExclusive ss s) φ = true ∧
    ∃ proofs residual, (enumerateProofs ss φ (k + 1) clock (clock 0 + budget) fuel 1).1 = .ok proofs residual ∧
      lower = mass ss (dnf (proofs.take (min proofs.length k))) ∧
      intervalFromEnumeration ss lower proofs (min proofs.length k) residual = .interval lo hi ∧
      fe = (residual == .Exhausted && decide (proofs.length ≤ k)) := by
  unfold evaluateTopk at h
  by_cases hk : k = 0
  · rw [if_pos hk] at h; cases h
  rw [if_neg hk] at h
  dsimp only at h
  by_cases hneg : ((metadata ss φ).hasNegation || !(metadata ss φ).monotone) = true
  · rw [if_pos hneg] at h; cases h
  rw [if_neg hneg] at h
  by_cases hex : (metadata ss φ).hasExclusive = true
  · rw [if_pos hex] at h; cases h
  rw [if_neg hex] at h
  refine ⟨by simpa [metadata] using hex, ?_⟩
  split at h
  · cases h
  · cases h
  · cases h
  · rename_i proofs residual i1 _ hen
    refine ⟨proofs, residual, by rw [hen], ?_⟩
    rcases hrw : retainedWmc ss (proofs.take (min proofs.length k)) clock (clock 0 + budget) oracle nb { i := i1 }
      with ⟨_ | lw, o, c2⟩
    · rw [hrw] at h; cases h
    · rw [hrw] at h
      dsimp only at h
      cases retainedWmc_some (congrArg Prod.fst hrw)
      cases hint : intervalFromEnumeration ss (mass ss (dnf (proofs.take (min proofs.length k)))) proofs
        (min proofs.length k) residual with
      | interval lo' hi' => rw [hint] at h; cases h; exact ⟨rfl, hint, rfl⟩
      | noInterval | err _ => rw [hint] at h; cases h

variable (ss cfg φ clock oracle fuel deadline k st)

theorem iteration_cases :
    (∃ o c, (o = .ret .Fuel ∨ o = .brk) ∧
      iteration ss cfg φ clock oracle fuel deadline k st = (o, { st with clk := c })) ∨
    ∃ proofs residual gain c,
      (enumerateProofs ss φ (k + 1) clock deadline fuel st.clk.i).1 = .ok proofs residual ∧
      decideIter ss cfg clock deadline k proofs residual (min proofs.length k)
        (mass ss (dnf (proofs.take (min proofs.length k)))) gain st c =
          iteration ss cfg φ clock oracle fuel deadline k st := by
  unfold iteration
  dsimp only
  cases (enumerateProofs ss φ (k + 1) clock deadline fuel st.clk.i).1 with
  | fuel => exact Or.inl ⟨_, _, Or.inl rfl, rfl⟩
  | err _ => exact Or.inl ⟨_, _, Or.inr rfl, rfl⟩
  | ok proofs residual =>
    dsimp only
    by_cases hr : residual = .Unknown
    · rw [if_pos hr]; exact Or.inl ⟨_, _, Or.inr rfl, rfl⟩
    · rw [if_neg hr]
      cases hw : (retainedWmc ss (proofs.take (min proofs.length k)) clock deadline oracle cfg.nodeBudget
          { st.clk with i := (enumerateProofs ss φ (k + 1) clock deadline fuel st.clk.i).2 }).1 with
      | none => exact Or.inl ⟨_, _, Or.inr rfl, rfl⟩
      | some wmc =>
        cases retainedWmc_some hw
        exact Or.inr ⟨_, _, _, _, rfl, rfl⟩

theorem iteration_spec (hs : seedsOk ss = true) (hφ : allLits (fun s => !isExclusive ss s) φ = true) (hst : CtlOk ss φ st) :
    CtlOk ss φ (iteration ss cfg φ clock oracle fuel deadline k st).2 ∧
    ∀ r, (iteration ss cfg φ clock oracle fuel deadline k st).1 = .ret r → soundResult ss cfg φ r := by
  rcases iteration_cases ss cfg φ clock oracle fuel deadline k st with
    ⟨o, c, ho, h⟩ | ⟨proofs, residual, gain, c, hen, h⟩
  · rw [h]
    refine ⟨hst, fun r hr => ?_⟩
    rcases ho with rfl | rfl
    · cases hr; trivial
    · cases hr
  · have hE := enumerateProofs_spec hs (nonexcl_notin_grp hs) hφ (k + 1) clock deadline fuel st.clk.i
    rw [hen] at hE
    exact decideIter_spec hs (nonexcl_notin_grp hs) hE hst h

theorem iteration_kind {r : Result} (h : (iteration ss cfg φ clock oracle fuel deadline k st).1 = .ret r) :
    certKind r := by
  rcases iteration_cases ss cfg φ clock oracle fuel deadline k st with
    ⟨o, c, ho, he⟩ | ⟨proofs, residual, gain, c, _, he⟩
  · rw [he] at h
    rcases ho with rfl | rfl
    · cases h; trivial
    · cases h
  · exact decideIter_kind he h

theorem topkLoop_induct (I : Ctl → Prop) (P : Result → Prop) (hfuel : P .Fuel)
    (hstep : ∀ k st, I st → I (iteration ss cfg φ clock oracle fuel deadline k st).2 ∧
      ∀ r, (iteration ss cfg φ clock oracle fuel deadline k st).1 = .ret r → P r) :
    ∀ n k st, I st → I (topkLoop ss cfg φ clock oracle fuel deadline n k st).2 ∧
      ∀ r, (topkLoop ss cfg φ clock oracle fuel deadline n k st).1 = some r → P r := by
  intro n
  induction n with
  | zero => intro k st hst; exact ⟨hst, fun r hr => by cases hr; exact hfuel⟩
  | succ n ih =>
    intro k st hst
    have h := hstep k st hst
    rw [topkLoop]
    generalize iteration ss cfg φ clock oracle fuel deadline k st = it at h ⊢
    obtain ⟨_ | _ | _, st'⟩ := it
    · exact ⟨h.1, fun r hr => by cases hr; exact h.2 _ rfl⟩
    · exact ⟨h.1, fun _ hr => nomatch hr⟩
    · exact ih _ st' h.1

/-- the ways out of the controller: invalid configuration, an early result of the top-k stage, the exact count
    of the SDD stage, or a refusal carrying the bounds the top-k stage left behind -/
theorem evaluateHybrid_cases :
    let res := (evaluateHybrid ss cfg φ clock oracle fuel).1
    let p := topkStage ss cfg φ clock oracle fuel
    res = .NeedsExact none none .DiagnosticOnly {} ∨ p.1 = some res ∨
    p.1 = none ∧
      ((∃ m, m.exactUsed = true ∧ res = .Exact (mass ss φ) (decide' cfg (total (units ss)) (mass ss φ)) .ExactSdd m) ∨
       ∃ r m, res = .NeedsExact (match p.2.last with | some (l, _) => some l | none => p.2.lower)
          (p.2.last.map (·.2)) r m) := by
  unfold evaluateHybrid
  by_cases hv : (!cfg.valid) = true
  · rw [if_pos hv]; exact Or.inl rfl
  · rw [if_neg hv]
    right
    generalize hp : topkStage ss cfg φ clock oracle fuel = p
    unfold topkStage at hp
    dsimp only
    rw [hp]
    obtain ⟨_ | r, st⟩ := p
    all_goals dsimp only
    · right
      refine ⟨rfl, ?_⟩
      rcases hsdd : sddStage ss cfg φ clock oracle { st.clk with i := st.clk.i + 2 } with ⟨_ | p, c'⟩
      · exact Or.inr ⟨_, _, rfl⟩
      · cases sddStage_ok hsdd
        exact Or.inl ⟨_, rfl, rfl⟩
    · exact Or.inl rfl

theorem topkStage_spec (hs : seedsOk ss = true) :
    CtlOk ss φ (topkStage ss cfg φ clock oracle fuel).2 ∧
    ∀ r, (topkStage ss cfg φ clock oracle fuel).1 = some r → soundResult ss cfg φ r := by
  have hinit : CtlOk ss φ { clk := { i := 1 } } := ⟨nofun, nofun⟩
  unfold topkStage
  split
  · rename_i hguard
    simp only [metadata, Bool.and_eq_true, Bool.not_eq_eq_eq_not] at hguard
    exact topkLoop_induct ss cfg φ clock oracle fuel _ (CtlOk ss φ) (soundResult ss cfg φ) trivial
      (fun k st => iteration_spec ss cfg φ clock oracle fuel _ k st hs hguard.2) _ _ _ hinit
  · exact ⟨hinit, fun _ h => nomatch h⟩

theorem topkStage_kind {r : Result} (h : (topkStage ss cfg φ clock oracle fuel).1 = some r) : certKind r := by
  unfold topkStage at h
  split at h
  · exact (topkLoop_induct ss cfg φ clock oracle fuel _ (fun _ => True) certKind trivial
      (fun k st _ => ⟨trivial, fun _ => iteration_kind ss cfg φ clock oracle fuel _ k st⟩) _ _ _ trivial).2 r h
  · cases h
end

/-! ### the lineage store -/

def Node.children : Node → List Nat
  | .and cs => cs
  | .or cs => cs
  | .not c => [c]
  | _ => []

/-- reachable-state invariant of the arena: constants at 0 and 1, the tree view agrees with the nodes,
    children precede the end of the arena -/
structure Store.WF (st : Store) : Prop where
  len : st.trees.length = st.nodes.length
  n0 : st.nodes[0]? = some .fls
  n1 : st.nodes[1]? = some .tru
  tree : ∀ (i : Nat) (n : Node), st.nodes[i]? = some n → st.trees[i]? = some (st.treeOfNode n)
  kids : ∀ (i : Nat) (n : Node), st.nodes[i]? = some n → ∀ c ∈ n.children, c < st.nodes.length

structure Store.Ext (st st' : Store) : Prop where
  le : st.nodes.length ≤ st'.nodes.length
  tree : ∀ i, i < st.nodes.length → st'.tree i = st.tree i

theorem Store.WF_new : Store.new.WF :=
  ⟨rfl, rfl, rfl,
    fun i n h => match i, h with
      | 0, h => by cases h; rfl
      | 1, h => by cases h; rfl,
    fun i n h => match i, h with
      | 0, h => by cases h; nofun
      | 1, h => by cases h; nofun⟩

theorem lt_of_getElem? {α} {l : List α} {i : Nat} {a : α} (h : l[i]? = some a) : i < l.length :=
  let ⟨hi, _⟩ := List.getElem?_eq_some_iff.1 h; hi

theorem getElem?_concat {α} {l : List α} {a b : α} {i : Nat} (h : (l ++ [a])[i]? = some b) :
    l[i]? = some b ∨ i = l.length ∧ b = a := by
  by_cases hi : i < l.length
  · rw [List.getElem?_append_left hi] at h; exact Or.inl h
  · rw [List.getElem?_append_right (Nat.le_of_not_lt hi), List.getElem?_singleton] at h
    split at h
    · rename_i h0
      cases h
      exact Or.inr ⟨Nat.le_antisymm (Nat.le_of_sub_eq_zero h0) (Nat.le_of_not_lt hi), rfl⟩
    · cases h

theorem Store.node_eq (st : Store) (i : Nat) (n : Node) (h : st.nodes[i]? = some n) : st.node i = n := by
  rw [Store.node, List.getD_eq_getElem?_getD, h]; rfl

theorem semAll_map (w : List Nat) (f : Nat → L) (cs : List Nat) :
    semAll w (cs.map f) = cs.all (fun c => sem w (f c)) := by
  induction cs with
  | nil => rfl
  | cons c cs ih => rw [List.map_cons, semAll, ih, List.all_cons]

theorem semAny_map (w : List Nat) (f : Nat → L) (cs : List Nat) :
    semAny w (cs.map f) = cs.any (fun c => sem w (f c)) := by
  induction cs with
  | nil => rfl
  | cons c cs ih => rw [List.map_cons, semAny, ih, List.any_cons]

theorem findIdx_some {n : Node} {l : List Node} {k i : Nat} (h : findIdx n l k = some i) :
    ∃ j, i = k + j ∧ l[j]? = some n := by
  induction l generalizing k with
  | nil => cases h
  | cons m l ih =>
    rw [findIdx] at h
    by_cases hm : m = n
    · rw [if_pos hm] at h; cases h
      exact ⟨0, rfl, congrArg some hm⟩
    · rw [if_neg hm] at h
      obtain ⟨j, rfl, hl⟩ := ih h
      exact ⟨j + 1, by rw [Nat.add_assoc, Nat.add_comm 1], hl⟩

/-- the result `r` of a store operation on a well-formed `st`: the new store is well formed and extends `st`, the
    returned id is in the arena and denotes `val` -/
def Store.Denotes (st : Store) (r : Store × Nat) (val : List Nat → Bool) : Prop :=
  r.1.WF ∧ st.Ext r.1 ∧ r.2 < r.1.nodes.length ∧ ∀ w, sem w (r.1.tree r.2) = val w

section
variable {st : Store}

theorem Store.find_some {n : Node} {i : Nat} (h : st.find n = some i) : st.nodes[i]? = some n := by
  obtain ⟨j, rfl, hj⟩ := findIdx_some h
  rwa [Nat.zero_add]

theorem Store.node_get {i : Nat} (h : i < st.nodes.length) : st.nodes[i]? = some (st.node i) := by
  rw [Store.node, List.getD_eq_getElem?_getD, List.getElem?_eq_getElem h]; rfl

theorem treeOfNode_congr {st' : Store} {n : Node} (h : ∀ c ∈ n.children, st'.tree c = st.tree c) :
    st'.treeOfNode n = st.treeOfNode n := by
  cases n with
  | and cs => exact congrArg L.and (List.map_congr_left h)
  | or cs => exact congrArg L.or (List.map_congr_left h)
  | not c => exact congrArg L.not (h c (List.mem_singleton.2 rfl))
  | _ => rfl

theorem Store.Denotes.congr {r : Store × Nat} {val val' : List Nat → Bool} (h : st.Denotes r val)
    (hv : ∀ w, val w = val' w) : st.Denotes r val' :=
  ⟨h.1, h.2.1, h.2.2.1, fun w => (h.2.2.2 w).trans (hv w)⟩

variable (hw : st.WF)
include hw

theorem Store.WF.tree_of {i : Nat} {n : Node} (h : st.nodes[i]? = some n) : st.tree i = st.treeOfNode n := by
  rw [Store.tree, List.getD_eq_getElem?_getD, hw.tree i n h]; rfl

/-- an operation that answers with an id already in the arena -/
theorem Store.Denotes.old {i : Nat} (hi : i < st.nodes.length) {val : List Nat → Bool}
    (h : ∀ w, sem w (st.tree i) = val w) : st.Denotes (st, i) val :=
  ⟨hw, ⟨Nat.le_refl _, fun _ _ => rfl⟩, hi, h⟩

theorem Store.intern_spec (n : Node) (hk : ∀ c ∈ n.children, c < st.nodes.length) :
    st.Denotes (st.intern n) fun w => sem w (st.treeOfNode n) := by
  unfold Store.intern
  cases hf : st.find n with
  | some i =>
    have hi := Store.find_some hf
    exact .old hw (lt_of_getElem? hi) fun w => by rw [hw.tree_of hi]
  | none =>
    dsimp only
    have hold : ∀ i, i < st.nodes.length →
        ({ nodes := st.nodes ++ [n], trees := st.trees ++ [st.treeOfNode n] } : Store).tree i = st.tree i := by
      intro i hi
      rw [Store.tree, Store.tree, List.getD_eq_getElem?_getD, List.getD_eq_getElem?_getD,
        List.getElem?_append_left (hw.len ▸ hi)]
    -- every node of the new arena has its children in the old one and its old-store tree at its index
    have key : ∀ (i : Nat) (m : Node), (st.nodes ++ [n])[i]? = some m → (∀ c ∈ m.children, c < st.nodes.length) ∧
        (st.trees ++ [st.treeOfNode n])[i]? = some (st.treeOfNode m) := by
      intro i m hm
      rcases getElem?_concat hm with h | ⟨rfl, rfl⟩
      · exact ⟨hw.kids i m h, by rw [List.getElem?_append_left (hw.len ▸ lt_of_getElem? h)]; exact hw.tree i m h⟩
      · exact ⟨hk, by rw [← hw.len]; exact List.getElem?_concat_length⟩
    refine ⟨⟨?_, ?_, ?_, fun i m hm => ?_, fun i m hm c hc => ?_⟩, ⟨?_, hold⟩, ?_, fun w => ?_⟩
    · rw [List.length_append, List.length_append, hw.len]; rfl
    · exact (List.getElem?_append_left (lt_of_getElem? hw.n0)).trans hw.n0
    · exact (List.getElem?_append_left (lt_of_getElem? hw.n1)).trans hw.n1
    · rw [treeOfNode_congr fun c hc => hold c ((key i m hm).1 c hc)]
      exact (key i m hm).2
    · rw [List.length_append]
      exact Nat.lt_succ_of_lt ((key i m hm).1 c hc)
    · rw [List.length_append]; exact Nat.le_add_right _ _
    · rw [List.length_append]; exact Nat.lt_succ_self _
    · rw [Store.tree, List.getD_eq_getElem?_getD, (key _ n List.getElem?_concat_length).2]; rfl

theorem literal_spec (s : Nat) : st.Denotes (st.literal s) fun w => w.contains s :=
  Store.intern_spec hw (.lit s) nofun

/-- ids 0 and 1 are the constants -/
theorem tree_const (b : Bool) (w : List Nat) :
    sem w (st.tree (if b then 1 else 0)) = b ∧ sem w (st.tree (if b then 0 else 1)) = !b := by
  have h0 := hw.tree_of hw.n0
  have h1 := hw.tree_of hw.n1
  cases b
  · rw [if_neg Bool.false_ne_true, if_neg Bool.false_ne_true, h0, h1]; exact ⟨rfl, rfl⟩
  · rw [if_pos rfl, if_pos rfl, h0, h1]; exact ⟨rfl, rfl⟩

theorem not_spec {id : Nat} (hid : id < st.nodes.length) : st.Denotes (st.not id) fun w => !sem w (st.tree id) := by
  have hlen2 : 2 ≤ st.nodes.length := lt_of_getElem? hw.n1
  have hnode := Store.node_get hid
  have htree := hw.tree_of hnode
  have hkids := hw.kids id _ hnode
  unfold Store.not
  cases hn : st.node id
  case fls =>
    rw [hn] at htree
    exact .old hw hlen2 fun w => by rw [htree]; exact (tree_const hw true w).1
  case tru =>
    rw [hn] at htree
    exact .old hw (Nat.lt_of_succ_lt hlen2) fun w => by rw [htree]; exact (tree_const hw false w).1
  case not inner =>
    rw [hn] at htree hkids
    exact .old hw (hkids inner (List.mem_singleton.2 rfl)) fun w => by rw [htree]; exact (Bool.not_not _).symm
  all_goals exact Store.intern_spec hw (.not id) (List.forall_mem_singleton.2 hid)
end

def agg (st : Store) (isAnd : Bool) (w : List Nat) (l : List Nat) : Bool :=
  if isAnd then l.all (fun x => sem w (st.tree x)) else l.any (fun x => sem w (st.tree x))

/-- what an item other than the annihilator contributes to the flattened list -/
def flatStep (st : Store) (isAnd : Bool) (idn item : Nat) : List Nat :=
  if item = idn then [] else
    match isAnd, st.node item with
    | true, .and cs => cs
    | false, .or cs => cs
    | _, _ => [item]

theorem mem_sortDedup (x : Nat) (l : List Nat) : x ∈ sortDedup l ↔ x ∈ l := by
  have : ∀ acc : List Nat, x ∈ l.foldl (fun acc y => insSorted y acc) acc ↔ x ∈ acc ∨ x ∈ l := by
    induction l with
    | nil => intro acc; rw [List.foldl_nil, or_iff_left List.not_mem_nil]
    | cons y l ih => intro acc; rw [List.foldl_cons, ih, mem_insSorted, List.mem_cons, or_comm (a := x = y), or_assoc]
  rw [sortDedup, this, or_iff_right List.not_mem_nil]

section
variable (st : Store) (isAnd : Bool) (w : List Nat)

theorem agg_nil : agg st isAnd w [] = isAnd := by
  cases isAnd <;> rfl

theorem agg_singleton (x : Nat) : agg st isAnd w [x] = sem w (st.tree x) := by
  cases isAnd <;> simp [agg]

theorem agg_append (a b : List Nat) :
    agg st isAnd w (a ++ b) = (if isAnd then agg st isAnd w a && agg st isAnd w b else agg st isAnd w a || agg st isAnd w b) := by
  cases isAnd <;> simp [agg]

theorem agg_congr_mem {a b : List Nat} (h : ∀ x, x ∈ a ↔ x ∈ b) : agg st isAnd w a = agg st isAnd w b := by
  rw [Bool.eq_iff_iff]
  cases isAnd <;> simp only [agg, Bool.false_eq_true, ↓reduceIte, List.any_eq_true, List.all_eq_true, h]

/-- one member with the annihilating value decides the whole -/
theorem agg_of_mem {l : List Nat} {x : Nat} (hx : x ∈ l) (h : sem w (st.tree x) = !isAnd) :
    agg st isAnd w l = !isAnd := by
  cases isAnd
  · exact List.any_eq_true.2 ⟨x, hx, h⟩
  · exact List.all_eq_false.2 ⟨x, hx, by rw [h]; nofun⟩

theorem agg_complement {flat : List Nat} {a b : Nat} (ha : a ∈ flat) (hb : b ∈ flat)
    (h : sem w (st.tree a) = !sem w (st.tree b)) : agg st isAnd w flat = !isAnd := by
  cases hs : sem w (st.tree b) <;> cases isAnd
  · exact agg_of_mem st false w ha (by rw [h, hs])
  · exact agg_of_mem st true w hb hs
  · exact agg_of_mem st false w hb hs
  · exact agg_of_mem st true w ha (by rw [h, hs])

theorem agg_flatMap (g : Nat → List Nat) (l : List Nat) (h : ∀ x ∈ l, agg st isAnd w (g x) = sem w (st.tree x)) :
    agg st isAnd w (l.flatMap g) = agg st isAnd w l := by
  induction l with
  | nil => rfl
  | cons x l ih =>
    rw [List.forall_mem_cons] at h
    rw [List.flatMap_cons, agg_append, h.1, ih h.2, ← agg_singleton st isAnd w x, ← agg_append]; rfl

theorem sem_treeOfNode_nary (l : List Nat) :
    sem w (st.treeOfNode (if isAnd then .and l else .or l)) = agg st isAnd w l := by
  cases isAnd
  · exact semAny_map w st.tree l
  · exact semAll_map w st.tree l

theorem flatten_cons (idn ann : Nat) {item : Nat} (rest acc : List Nat) (h : item ≠ ann) :
    flatten st isAnd idn ann (item :: rest) acc =
      flatten st isAnd idn ann rest (acc ++ flatStep st isAnd idn item) := by
  conv => lhs; unfold flatten
  unfold flatStep
  rw [if_neg h]
  by_cases h2 : item = idn
  · rw [if_pos h2, if_pos h2, List.append_nil]
  · rw [if_neg h2, if_neg h2]
    cases isAnd <;> cases st.node item <;> rfl

theorem flatten_eq (idn ann : Nat) : ∀ items acc : List Nat,
    flatten st isAnd idn ann items acc =
      if ann ∈ items then none else some (acc ++ items.flatMap (flatStep st isAnd idn))
  | [], acc => by rw [flatten, if_neg List.not_mem_nil, List.flatMap_nil, List.append_nil]
  | item :: rest, acc => by
    by_cases h : item = ann
    · unfold flatten
      rw [if_pos h, if_pos (h ▸ List.mem_cons_self)]
    · rw [flatten_cons st isAnd idn ann rest acc h, flatten_eq idn ann rest, List.flatMap_cons, List.append_assoc]
      simp only [List.mem_cons, Ne.symm h, false_or]
end

section
variable {st : Store} (hw : st.WF)
include hw

theorem flatStep_spec (isAnd : Bool) {x : Nat} (hx : x < st.nodes.length) :
    (∀ c ∈ flatStep st isAnd (if isAnd then 1 else 0) x, c < st.nodes.length) ∧
    ∀ w, agg st isAnd w (flatStep st isAnd (if isAnd then 1 else 0) x) = sem w (st.tree x) := by
  have hnode := Store.node_get hx
  have htree := hw.tree_of hnode
  have hkids := hw.kids x _ hnode
  unfold flatStep
  by_cases hid : x = if isAnd then 1 else 0
  · rw [if_pos hid]
    exact ⟨nofun, fun w => by rw [agg_nil, hid, (tree_const hw isAnd w).1]⟩
  · rw [if_neg hid]
    have hself : (∀ c ∈ [x], c < st.nodes.length) ∧ ∀ w, agg st isAnd w [x] = sem w (st.tree x) :=
      ⟨List.forall_mem_singleton.2 hx, fun w => agg_singleton st isAnd w x⟩
    cases isAnd <;> cases hn : st.node x
    case false.or cs =>
      rw [hn] at htree hkids
      exact ⟨hkids, fun w => by rw [htree]; exact (sem_treeOfNode_nary st false w cs).symm⟩
    case true.and cs =>
      rw [hn] at htree hkids
      exact ⟨hkids, fun w => by rw [htree]; exact (sem_treeOfNode_nary st true w cs).symm⟩
    all_goals exact hself

theorem hasComplement_spec {flat : List Nat} (hl : ∀ x ∈ flat, x < st.nodes.length)
    (h : hasComplement st flat = true) :
    ∃ a ∈ flat, ∃ b ∈ flat, ∀ w, sem w (st.tree a) = !sem w (st.tree b) := by
  obtain ⟨item, hitem, hc⟩ := List.any_eq_true.1 h
  split at hc
  · rename_i inner hn
    have htree := hw.tree_of (Store.node_get (hl item hitem))
    rw [hn] at htree
    exact ⟨item, hitem, inner, List.contains_iff_mem.1 hc, fun w => by rw [htree]; rfl⟩
  · cases hf : st.find (.not item) with
    | none => rw [hf] at hc; cases hc
    | some negated =>
      rw [hf] at hc
      have htn := hw.tree_of (Store.find_some hf)
      exact ⟨negated, List.contains_iff_mem.1 hc, item, hitem, fun w => by rw [htn]; rfl⟩

/-- `canonical_nary` (flattening, sorting, dedup, complement detection, hash-consing) preserves meaning -/
theorem canonicalNary_spec (isAnd : Bool) {items : List Nat} (hitems : ∀ x ∈ items, x < st.nodes.length) :
    st.Denotes (st.canonicalNary isAnd items) fun w => agg st isAnd w items := by
  have hlen2 : 2 ≤ st.nodes.length := lt_of_getElem? hw.n1
  obtain ⟨hidn, hann⟩ : (if isAnd then 1 else 0) < st.nodes.length ∧ (if isAnd then 0 else 1) < st.nodes.length := by
    cases isAnd
    · exact ⟨Nat.lt_of_succ_lt hlen2, hlen2⟩
    · exact ⟨hlen2, Nat.lt_of_succ_lt hlen2⟩
  unfold Store.canonicalNary
  dsimp only
  rw [flatten_eq]
  by_cases hmem : (if isAnd then 0 else 1) ∈ items
  · rw [if_pos hmem]
    exact .old hw hann fun w => by
      rw [(tree_const hw isAnd w).2, agg_of_mem st isAnd w hmem (tree_const hw isAnd w).2]
  · rw [if_neg hmem, List.nil_append]
    dsimp only
    have hstep := fun x hx => flatStep_spec hw isAnd (hitems x hx)
    have hlt : ∀ x ∈ sortDedup (items.flatMap (flatStep st isAnd (if isAnd then 1 else 0))), x < st.nodes.length := by
      intro x hx
      obtain ⟨y, hy, hxy⟩ := List.mem_flatMap.1 ((mem_sortDedup x _).1 hx)
      exact (hstep y hy).1 x hxy
    have hagg : ∀ w, agg st isAnd w (sortDedup (items.flatMap (flatStep st isAnd (if isAnd then 1 else 0)))) =
        agg st isAnd w items := fun w => by
      rw [agg_congr_mem st isAnd w fun x => mem_sortDedup x _, agg_flatMap st isAnd w _ items fun x hx => (hstep x hx).2 w]
    generalize sortDedup (items.flatMap (flatStep st isAnd (if isAnd then 1 else 0))) = flat at hlt hagg ⊢
    by_cases hc : hasComplement st flat = true
    · rw [if_pos hc]
      obtain ⟨a, ha, b, hb, hab⟩ := hasComplement_spec hw hlt hc
      exact .old hw hann fun w => by
        rw [(tree_const hw isAnd w).2, ← hagg w, agg_complement st isAnd w ha hb (hab w)]
    · rw [if_neg hc]
      split
      · exact .old hw hidn fun w => by rw [(tree_const hw isAnd w).1, ← hagg w, agg_nil]
      · exact .old hw (hlt _ (List.mem_singleton.2 rfl)) fun w => by rw [← hagg w, agg_singleton]
      · refine (Store.intern_spec hw _ ?_).congr fun w => by rw [sem_treeOfNode_nary, hagg w]
        cases isAnd <;> exact hlt
end

end Kolibrie.Hybrid
