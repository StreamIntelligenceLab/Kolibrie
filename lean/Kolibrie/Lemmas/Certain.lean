import Kolibrie.Lemmas.InputIndep
/-! A decidable, syntactic sufficient condition for `Safe`: every FILTER variable is among the variables its
    input certainly binds (`planCertain`). -/
namespace Kolibrie.Engine
open List

def termVar : Term → List Var
  | .var v => [v]
  | .const _ => []

/-- variables bound in every solution a plan produces (whatever comes in) -/
def planCertain : Plan → List Var
  | .unit => []
  | .empty => []
  | .scan pat => termVar pat.s ++ termVar pat.p ++ termVar pat.o
  | .star pats => pats.flatMap (fun pat => termVar pat.s ++ termVar pat.p ++ termVar pat.o)
  | .values _ _ => []
  | .subquery _ _ => []
  | .union l r => (planCertain l).filter (fun v => (planCertain r).contains v)
  | .bindJoin l r => planCertain l ++ planCertain r
  | .hashJoin l r => planCertain l ++ planCertain r
  | .nlJoin l r => planCertain l ++ planCertain r
  | .graph i _ => planCertain i
  | .filter i _ => planCertain i
  | .project _ _ => []
  | .bind _ _ _ => []

def safeSyn : Plan → Bool
  | .unit => true
  | .empty => true
  | .scan _ => true
  | .star _ => true
  | .values _ _ => true
  | .subquery _ _ => true
  | .union l r => safeSyn l && safeSyn r
  | .bindJoin l r => safeSyn l && safeSyn r
  | .hashJoin l r => safeSyn l && safeSyn r
  | .nlJoin l r => safeSyn l && safeSyn r
  | .graph i _ => safeSyn i
  | .filter i c => safeSyn i && c.vars.all (fun v => (planCertain i).contains v)
  | .project _ _ => false
  | .bind _ _ _ => false

/-- plans without projection and BIND: every operator only extends the rows it is given -/
def plain : Plan → Bool
  | .unit => true
  | .empty => true
  | .scan _ => true
  | .star _ => true
  | .values _ _ => true
  | .subquery _ _ => true
  | .union l r => plain l && plain r
  | .bindJoin l r => plain l && plain r
  | .hashJoin l r => plain l && plain r
  | .nlJoin l r => plain l && plain r
  | .graph i _ => plain i
  | .filter i _ => plain i
  | .project _ _ => false
  | .bind _ _ _ => false

theorem plain_of_safeSyn (p : Plan) (h : safeSyn p = true) : plain p = true := by
  induction p with
  | unit | empty | scan | star | values | subquery => rfl
  | project | bind => cases h
  | union l r ihl ihr | bindJoin l r ihl ihr | hashJoin l r ihl ihr | nlJoin l r ihl ihr =>
    have h := Bool.and_eq_true_iff.1 h
    exact Bool.and_eq_true_iff.2 ⟨ihl h.1, ihr h.2⟩
  | graph i g ih => exact ih h
  | filter i c ih =>
    exact ih (Bool.and_eq_true_iff.1 h).1

theorem mem_termVar (t : Term) (v : Var) (h : v ∈ termVar t) : t = .var v := by
  cases t with
  | const c => cases h
  | var w => rw [mem_singleton.1 h]

theorem scan_facts (db : DB) (ctx : Ctx) (pat : QPat) (inc : List Row) :
    ∀ b ∈ scan db ctx pat inc, (∃ row ∈ inc, Extends row b) ∧
      boundIn b (termVar pat.s ++ termVar pat.p ++ termVar pat.o) := by
  intro b hb
  obtain ⟨row, hrow, hb'⟩ := mem_flatMap.1 hb
  obtain ⟨gb, t, ht⟩ := mem_scanRow hb'
  refine ⟨⟨row, hrow, runChain_extends _ row b ht⟩, fun v hv => ?_⟩
  have hmem : ∀ tx, tx ∈ [(pat.s, t.1), (pat.p, t.2.1), (pat.o, t.2.2)] → tx ∈ chainOf pat gb t :=
    fun tx h => mem_append_right _ h
  simp only [mem_append] at hv
  rcases hv with (hv | hv) | hv
  · exact runChain_binds _ row b ht v t.1 (hmem _ (by rw [mem_termVar _ _ hv]; simp))
  · exact runChain_binds _ row b ht v t.2.1 (hmem _ (by rw [mem_termVar _ _ hv]; simp))
  · exact runChain_binds _ row b ht v t.2.2 (hmem _ (by rw [mem_termVar _ _ hv]; simp))

theorem facts_comp {inc mid : List Row} {V W : List Var} {b : Row}
    (h1 : ∀ m ∈ mid, (∃ i ∈ inc, Extends i m) ∧ boundIn m V) (h2 : (∃ m ∈ mid, Extends m b) ∧ boundIn b W) :
    (∃ i ∈ inc, Extends i b) ∧ boundIn b (V ++ W) := by
  obtain ⟨⟨m, hm, hmb⟩, hW⟩ := h2
  obtain ⟨⟨i, hi, him⟩, hV⟩ := h1 m hm
  refine ⟨⟨i, hi, extends_trans him hmb⟩, fun v hv => ?_⟩
  rcases mem_append.1 hv with hv | hv
  · exact hmb.isSome v (hV v hv)
  · exact hW v hv

theorem nlJoin_facts {inc l r : List Row} {V W : List Var}
    (h1 : ∀ m ∈ l, (∃ i ∈ inc, Extends i m) ∧ boundIn m V) (h2 : ∀ n ∈ r, boundIn n W) (b : Row)
    (hb : b ∈ nlJoin l r) : (∃ i ∈ inc, Extends i b) ∧ boundIn b (V ++ W) := by
  obtain ⟨m, hm, n, hn, hmn⟩ := mem_nlJoin.1 hb
  obtain ⟨e1, e2⟩ := mergeRows_extends hmn
  exact facts_comp h1 ⟨⟨m, hm, e1⟩, fun v hv => e2.isSome v (h2 n hn v hv)⟩

/-- what every row of `exec p ctx inc` satisfies: it extends some incoming row and binds `planCertain p`
    (filter conditions play no role) -/
theorem exec_facts (db : DB) (p : Plan) (hp : plain p = true) (ctx : Ctx) (inc : List Row)
    (b : Row) (hb : b ∈ exec db p ctx inc) :
    (∃ i ∈ inc, Extends i b) ∧ boundIn b (planCertain p) := by
  induction p generalizing ctx inc b with
  | unit => rw [exec_unit] at hb; exact ⟨⟨b, hb, extends_refl b⟩, fun _ h => absurd h not_mem_nil⟩
  | empty => rw [exec_empty] at hb; cases hb
  | project | bind => cases hp
  | values vars rows => rw [exec_values] at hb; exact ⟨nlJoin_extends inc _ b hb, fun _ h => absurd h not_mem_nil⟩
  | subquery inner spec _ => rw [exec_subquery] at hb; exact ⟨nlJoin_extends inc _ b hb, fun _ h => absurd h not_mem_nil⟩
  | scan pat =>
    rw [exec_scan] at hb
    exact scan_facts db ctx pat inc b hb
  | star pats =>
    rw [exec_star] at hb
    induction pats generalizing inc with
    | nil => exact ⟨⟨b, hb, extends_refl b⟩, fun _ h => absurd h not_mem_nil⟩
    | cons p ps ih =>
      exact facts_comp (scan_facts db ctx { p with g := .dflt } inc) (ih rfl _ hb)
  | union l r ihl ihr =>
    have hp := Bool.and_eq_true_iff.1 hp
    rw [exec_union] at hb
    rcases mem_append.1 hb with hb | hb
    · exact (ihl hp.1 ctx inc b hb).imp_right fun h v hv => h v (mem_filter.1 hv).1
    · exact (ihr hp.2 ctx inc b hb).imp_right fun h v hv => h v (by simpa using (mem_filter.1 hv).2)
  | filter i c ih =>
    rw [exec_filter] at hb
    exact ih hp ctx inc b (mem_filter.1 hb).1
  | graph i g ih =>
    cases g with
    | dflt => rw [exec_graph_dflt] at hb; exact ih hp _ inc b hb
    | named gn =>
      rw [exec_graph_named] at hb
      split at hb
      · exact ih hp _ inc b hb
      · cases hb
    | var v =>
      rw [exec_graph_var] at hb
      obtain ⟨row, hrow, hb'⟩ := mem_flatMap.1 hb
      obtain ⟨g, row', _, hm, hb''⟩ := mem_graphVarRow hb'
      obtain ⟨⟨i', hi', hext⟩, hc⟩ := ih hp _ _ b hb''
      rw [mem_singleton.1 hi'] at hext
      exact ⟨⟨row, hrow, extends_trans (matchTerm_extends _ _ _ _ hm) hext⟩, hc⟩
  | bindJoin l r ihl ihr =>
    have hp := Bool.and_eq_true_iff.1 hp
    rw [exec_bindJoin] at hb
    exact facts_comp (ihl hp.1 ctx inc) (ihr hp.2 ctx _ b hb)
  | hashJoin l r ihl ihr =>
    have hp := Bool.and_eq_true_iff.1 hp
    rw [exec_hashJoin] at hb
    exact nlJoin_facts (ihl hp.1 ctx inc) (fun n hn => (ihr hp.2 ctx _ n hn).2) b ((hashJoin_perm_nlJoin _ _).subset hb)
  | nlJoin l r ihl ihr =>
    have hp := Bool.and_eq_true_iff.1 hp
    rw [exec_nlJoin] at hb
    exact nlJoin_facts (ihl hp.1 ctx inc) (fun n hn => (ihr hp.2 ctx _ n hn).2) b hb

theorem safe_of_safeSyn (db : DB) (p : Plan) (hs : safeSyn p = true) : Safe db p := by
  induction p with
  | unit | empty | scan | star | values | subquery => trivial
  | project | bind => cases hs
  | union l r ihl ihr | bindJoin l r ihl ihr | hashJoin l r ihl ihr | nlJoin l r ihl ihr =>
    have hs := Bool.and_eq_true_iff.1 hs
    exact ⟨ihl hs.1, ihr hs.2⟩
  | graph i g ih => exact ih hs
  | filter i c ih =>
    have hs := Bool.and_eq_true_iff.1 hs
    refine ⟨ih hs.1, fun ctx _ r hr v hv => ?_⟩
    refine (exec_facts db i (plain_of_safeSyn i hs.1) ctx [[]] r hr).2 v ?_
    simpa using (all_eq_true.1 hs.2) v hv

end Kolibrie.Engine
