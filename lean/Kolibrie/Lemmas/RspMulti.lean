import Kolibrie.Lemmas.Rsp
import Kolibrie.Spec.RspMulti
/-
Lemmas for C11, in three parts.  Every row of a join restricts to a row of each operand (`Sub`, the `_proj` lemmas).
The engine with one store per window keeps `IsoInv`: every row on its way to the coordinator answers its window's
block over a content that window reported; so every emission is a `GoodEmission`.  The engine with one shared store
is related to it by `Sim`: as long as no window reports a triple relevant to another window's block, every window sees
the same `view` of its store in both, and the two emit the same.
-/
namespace Kolibrie.Rsp
open List

variable {cfg : MCfg} {all : List MEv} {st : MSt}

theorem lookup_append (a b : Row) (k : Nat) :
    lookup (a ++ b) k = match lookup a k with | some v => some v | none => lookup b k := by
  induction a with
  | nil => rfl
  | cons kv a ih =>
    obtain ⟨k', v'⟩ := kv
    rw [cons_append, lookup, lookup]
    by_cases h : k' = k
    · rw [if_pos h, if_pos h]
    · rw [if_neg h, if_neg h, ih]

theorem mem_of_lookup {a : Row} {k v : Nat} (h : lookup a k = some v) : (k, v) ∈ a := by
  induction a with
  | nil => cases h
  | cons kv a ih =>
    obtain ⟨k', v'⟩ := kv
    rw [lookup] at h
    by_cases hk : k' = k
    · rw [if_pos hk, Option.some.injEq] at h
      rw [hk, h]; exact mem_cons_self
    · rw [if_neg hk] at h
      exact mem_cons_of_mem _ (ih h)

theorem lookup_filter_fresh (a b : Row) (k : Nat) (hk : lookup a k = none) :
    lookup (b.filter fun kv => (lookup a kv.1).isNone) k = lookup b k := by
  induction b with
  | nil => rfl
  | cons kv b ih =>
    obtain ⟨k', v'⟩ := kv
    by_cases h : k' = k
    · subst h
      simp [filter, hk, lookup]
    · by_cases hf : (lookup a k').isNone = true <;> simp [filter, hf, lookup, h, ih]

theorem sub_refl (a : Row) : Sub a a := fun _ _ h => h

theorem sub_trans {a b c : Row} (h1 : Sub a b) (h2 : Sub b c) : Sub a c := fun k v h => h2 k v (h1 k v h)

theorem sub_merge_left (a b : Row) : Sub a (mergeRow a b) := by
  intro k v h
  rw [mergeRow, lookup_append, h]

theorem sub_merge_right {a b : Row} (hc : compatible a b = true) : Sub b (mergeRow a b) := by
  intro k v h
  rw [mergeRow, lookup_append]
  cases ha : lookup a k with
  | none => exact (lookup_filter_fresh a b k ha).trans h
  | some v' =>
    -- `a` binds `k` too, and compatibility makes the two values agree
    have := all_eq_true.1 hc _ (mem_of_lookup ha)
    rw [h] at this
    exact congrArg some (beq_iff_eq.1 this).symm

theorem naturalJoin_proj {l s : List Row} {r : Row} (h : r ∈ naturalJoin l s) :
    ∃ a, a ∈ l ∧ ∃ b, b ∈ s ∧ Sub a r ∧ Sub b r := by
  obtain ⟨a, ha, hr⟩ := mem_flatMap.1 h
  obtain ⟨b, hb, hab⟩ := mem_filterMap.1 hr
  by_cases hc : compatible a b = true
  · rw [if_pos hc, Option.some.injEq] at hab
    exact ⟨a, ha, b, hb, hab ▸ sub_merge_left a b, hab ▸ sub_merge_right hc⟩
  · rw [if_neg hc] at hab; cases hab

theorem foldl_join_proj (rest : List (List Row)) {acc : List Row} {r : Row} (h : r ∈ rest.foldl naturalJoin acc) :
    (∃ a, a ∈ acc ∧ Sub a r) ∧ ∀ x, x ∈ rest → ∃ b, b ∈ x ∧ Sub b r := by
  induction rest generalizing acc with
  | nil => exact ⟨⟨r, h, sub_refl r⟩, nofun⟩
  | cons y rest ih =>
    obtain ⟨⟨a, ha, har⟩, hrest⟩ := ih h
    obtain ⟨a0, ha0, b0, hb0, s0, s1⟩ := naturalJoin_proj ha
    refine ⟨⟨a0, ha0, sub_trans s0 har⟩, fun x hx => ?_⟩
    rcases mem_cons.mp hx with rfl | hx
    · exact ⟨b0, hb0, sub_trans s1 har⟩
    · exact hrest x hx

theorem joinAll_proj {rs : List (List Row)} {r : Row} (h : r ∈ joinAll rs) :
    ∀ x, x ∈ rs → ∃ a, a ∈ x ∧ Sub a r := by
  cases rs with
  | nil => cases h
  | cons first rest =>
    obtain ⟨h1, h2⟩ := foldl_join_proj rest h
    intro x hx
    rcases mem_cons.mp hx with rfl | hx
    · exact h1
    · exact h2 x hx

theorem emitRows_proj {lm : List (Nat × List Row)} {r : Row} (h : r ∈ emitRows cfg lm) :
    (∀ e, e ∈ lm → ∃ a, a ∈ e.2 ∧ Sub a r) ∧
    (cfg.staticPlan.isEmpty = false → ∃ b, b ∈ staticRows cfg ∧ Sub b r) := by
  unfold emitRows at h
  by_cases hs : cfg.staticPlan.isEmpty = true
  · rw [if_pos hs] at h
    exact ⟨fun e he => joinAll_proj h e.2 (mem_map.mpr ⟨e, he, rfl⟩), fun hn => nomatch hs.symm.trans hn⟩
  · rw [if_neg hs] at h
    obtain ⟨a, ha, b, hb, s0, s1⟩ := naturalJoin_proj h
    refine ⟨fun e he => ?_, fun _ => ⟨b, hb, s1⟩⟩
    obtain ⟨a', ha', s'⟩ := joinAll_proj ha e.2 (mem_map.mpr ⟨e, he, rfl⟩)
    exact ⟨a', ha', sub_trans s' s0⟩

theorem keys_extendAt (m : List (Nat × List Row)) (w : Nat) (rows : List Row) :
    (extendAt m w rows).map (·.1) = addNew (m.map (·.1)) w := by
  induction m with
  | nil => rfl
  | cons e rest ih =>
    rw [extendAt]
    by_cases hk : e.1 = w
    · rw [if_pos hk, map_cons, map_cons, hk, addNew_cons_self]
    · rw [if_neg hk, map_cons, map_cons, ih, addNew_cons_of_ne (Ne.symm hk)]

theorem keys_drain (chan m : List (Nat × List Row)) :
    (drain m chan).map (·.1) = (chan.map (·.1)).foldl addNew (m.map (·.1)) := by
  induction chan generalizing m with
  | nil => rfl
  | cons e chan ih => exact (ih (extendAt m e.1 e.2)).trans (by rw [keys_extendAt, map_cons, foldl_cons])

def AllRows (P : Nat → Row → Prop) (m : List (Nat × List Row)) : Prop := ∀ e, e ∈ m → ∀ a, a ∈ e.2 → P e.1 a

theorem allRows_extendAt {P : Nat → Row → Prop} {m : List (Nat × List Row)} {w : Nat} {rows : List Row}
    (hm : AllRows P m) (hr : ∀ a, a ∈ rows → P w a) : AllRows P (extendAt m w rows) := by
  induction m with
  | nil => intro e he a ha; cases mem_singleton.1 he; exact hr a ha
  | cons e' rest ih =>
    obtain ⟨h1, h2⟩ := forall_mem_cons.1 hm
    rw [extendAt]
    by_cases hk : e'.1 = w
    · rw [if_pos hk]
      exact forall_mem_cons.2 ⟨fun a ha => (mem_append.1 ha).elim (h1 a) fun h => hk ▸ hr a h, h2⟩
    · rw [if_neg hk]
      exact forall_mem_cons.2 ⟨h1, ih h2⟩

theorem allRows_drain {P : Nat → Row → Prop} {chan m : List (Nat × List Row)} (hm : AllRows P m)
    (hc : AllRows P chan) : AllRows P (drain m chan) := by
  induction chan generalizing m with
  | nil => exact hm
  | cons e chan ih =>
    exact ih (allRows_extendAt hm (hc e mem_cons_self)) fun e' he' => hc e' (mem_cons_of_mem _ he')

theorem allRows_nil {P : Nat → Row → Prop} : AllRows P [] := nofun

theorem poll_fst (cfg : MCfg) (st : MSt) :
    (poll cfg st).1 = st ∨ ∃ lm, (lm = [] ∨ lm = drain st.lastMat st.chan) ∧
      (poll cfg st).1 = { st with chan := [], lastMat := lm } := by
  unfold poll
  by_cases hc : st.chan.isEmpty = true
  · rw [if_pos hc]; exact Or.inl rfl
  · rw [if_neg hc]
    by_cases hl : ((drain st.lastMat st.chan).length == cfg.plans.length) = true
    · rw [if_pos hl]
      cases cfg.policy
      · exact Or.inr ⟨_, Or.inl rfl, rfl⟩
      · exact Or.inr ⟨_, Or.inr rfl, rfl⟩
    · rw [if_neg hl]; exact Or.inr ⟨_, Or.inr rfl, rfl⟩

theorem poll_snd {e : Emission} (h : (poll cfg st).2 = some e) :
    e = ⟨drain st.lastMat st.chan, emitRows cfg (drain st.lastMat st.chan)⟩ ∧
      (drain st.lastMat st.chan).length = cfg.plans.length := by
  unfold poll at h
  by_cases hc : st.chan.isEmpty = true
  · rw [if_pos hc] at h; cases h
  · rw [if_neg hc] at h
    by_cases hl : ((drain st.lastMat st.chan).length == cfg.plans.length) = true
    · rw [if_pos hl] at h
      exact ⟨(Option.some.inj h).symm, beq_iff_eq.1 hl⟩
    · rw [if_neg hl] at h; cases h

theorem mrunFrom_cons (cfg : MCfg) (st : MSt) (ev : MEv) (evs : List MEv) :
    mrunFrom cfg st (ev :: evs) = (mstep cfg st ev).2.toList ++ mrunFrom cfg (mstep cfg st ev).1 evs := by
  rw [mrunFrom]
  generalize mstep cfg st ev = res
  obtain ⟨st', _ | out⟩ := res
  · rfl
  · rfl

theorem mrunFrom_forall {I : MSt → Prop} {E : MEv → Prop} {G : Emission → Prop}
    (hstep : ∀ st ev, I st → E ev → I (mstep cfg st ev).1 ∧ ∀ e, (mstep cfg st ev).2 = some e → G e) :
    ∀ (evs : List MEv) (st : MSt), I st → (∀ ev, ev ∈ evs → E ev) → ∀ e, e ∈ mrunFrom cfg st evs → G e := by
  intro evs
  induction evs with
  | nil => exact fun _ _ _ _ h => nomatch h
  | cons ev evs ih =>
    intro st hi he e h
    obtain ⟨hi', hg⟩ := hstep st ev hi (he ev mem_cons_self)
    rw [mrunFrom_cons, mem_append, Option.mem_toList] at h
    exact h.elim (hg e) (ih _ hi' (fun ev' h' => he ev' (mem_cons_of_mem _ h')) e)

theorem getD_set_self {α} {l : List α} {k : Nat} {v d : α} (h : k < l.length) : (l.set k v).getD k d = v := by
  simp [getD_eq_getElem?_getD, getElem?_set_self h]

theorem getD_set_ne {α} {l : List α} {k j : Nat} {v d : α} (h : k ≠ j) : (l.set k v).getD j d = l.getD j d := by
  simp [getD_eq_getElem?_getD, getElem?_set_ne h]

theorem mem_reported {w : Nat} {c : List Triple} {evs : List MEv} : c ∈ reported w evs ↔ MEv.fire w c ∈ evs := by
  induction evs with
  | nil => simp [reported]
  | cons ev es ih =>
    cases ev with
    | poll => simp [reported, ih]
    | fire w' c' =>
      rw [reported, mem_cons, MEv.fire.injEq, ← ih]
      by_cases h : w' = w
      · rw [if_pos h, mem_cons, eq_comm (a := c), h, eq_self, true_and]
      · rw [if_neg h]
        exact ⟨Or.inr, fun h' => h'.elim (fun e => absurd e.1.symm h) id⟩

theorem load_exact {store prev c : List Triple} (hn : store.Nodup) (hm : ∀ x, x ∈ store ↔ x ∈ prev) :
    (c.foldl insertT (prev.foldl eraseT store)).Nodup ∧
    ∀ x, x ∈ c.foldl insertT (prev.foldl eraseT store) ↔ x ∈ c := by
  refine ⟨nodup_foldl_insertT _ _ (nodup_foldl_eraseT _ _ hn), fun x => ?_⟩
  rw [mem_foldl_insertT, mem_foldl_eraseT, hm]
  exact ⟨fun h => h.elim (fun h => absurd h.1 h.2) id, Or.inr⟩

/-- what window `w`'s block may answer: its plan over a content this very window reported in `all` -/
def BlockAns (cfg : MCfg) (all : List MEv) (w : Nat) (a : Row) : Prop :=
  ∃ c, MEv.fire w c ∈ all ∧ a ∈ evalBGP (dedup c) (cfg.plans.getD w [])

def Fired (all : List MEv) (w : Nat) : Prop := ∃ c, MEv.fire w c ∈ all

/-- invariant of the per-window-store engine -/
structure IsoInv (cfg : MCfg) (all : List MEv) (st : MSt) : Prop where
  store_eq : ∀ w, (st.stores.getD w []).Nodup ∧ ∀ x, x ∈ st.stores.getD w [] ↔ x ∈ st.prevRaws.getD w []
  same_len : st.stores.length = st.prevRaws.length
  chanOK : AllRows (BlockAns cfg all) st.chan
  lmOK : AllRows (BlockAns cfg all) st.lastMat
  chanKeys : ∀ k, k ∈ st.chan.map (·.1) → Fired all k
  lmKeys : (st.lastMat.map (·.1)).Nodup ∧ ∀ k, k ∈ st.lastMat.map (·.1) → Fired all k

theorem isoInv_init (cfg : MCfg) (all : List MEv) (n : Nat) : IsoInv cfg all (MSt.init n) := by
  refine ⟨fun w => ?_, by simp [MSt.init], allRows_nil, allRows_nil, nofun, nodup_nil, nofun⟩
  simp only [MSt.init, getD_eq_getElem?_getD, getElem?_replicate]
  split <;> simp

theorem isoInv_fire (hs : cfg.shared = false) (hi : IsoInv cfg all st)
    (w : Nat) (c : List Triple) (hmem : MEv.fire w c ∈ all) : IsoInv cfg all (fireW cfg st w c) := by
  have hk : cfg.slot w = w := by rw [MCfg.slot, hs]; rfl
  obtain ⟨hn, hm⟩ := load_exact (c := c) (hi.store_eq w).1 (hi.store_eq w).2
  unfold fireW
  rw [hk]
  refine ⟨fun j => ?_, by simp [hi.same_len], fun e he a ha => ?_, hi.lmOK, fun k hk => ?_, hi.lmKeys⟩
  · dsimp only
    by_cases hj : w = j
    · subst hj
      by_cases hlt : w < st.stores.length
      · rw [getD_set_self hlt, getD_set_self (hi.same_len ▸ hlt)]
        exact ⟨hn, hm⟩
      · rw [set_eq_of_length_le (Nat.le_of_not_lt hlt), set_eq_of_length_le (hi.same_len ▸ Nat.le_of_not_lt hlt)]
        exact hi.store_eq w
    · rw [getD_set_ne hj, getD_set_ne hj]
      exact hi.store_eq j
  · rcases mem_append.mp he with he | he
    · exact hi.chanOK e he a ha
    · -- the rows just sent: the plan over the reloaded store, which holds `c` up to order
      obtain rfl := mem_singleton.1 he
      exact ⟨c, hmem, (evalBGP_perm _ ((perm_ext_iff_of_nodup hn (nodup_dedup _)).2 fun x => by
        rw [hm, mem_dedup])).mem_iff.mp ha⟩
  · rw [map_append, mem_append] at hk
    exact hk.elim (hi.chanKeys k) fun h => mem_singleton.1 h ▸ ⟨c, hmem⟩

/-- what the property demands of one emission (and that only windows that fired take part) -/
def GoodEmission (cfg : MCfg) (all : List MEv) (e : Emission) : Prop :=
  e.lm.length = cfg.plans.length ∧ (e.lm.map (·.1)).Nodup ∧
  (∀ r, r ∈ e.rows →
    (∀ ent, ent ∈ e.lm → ∃ c, c ∈ reported ent.1 all ∧ ∃ a, a ∈ evalBGP (dedup c) (cfg.plans.getD ent.1 []) ∧ Sub a r) ∧
    (cfg.staticPlan.isEmpty = false → ∃ b, b ∈ evalBGP (dedup cfg.staticData) cfg.staticPlan ∧ Sub b r)) ∧
  ∀ k, k ∈ e.lm.map (·.1) → Fired all k

theorem isoInv_poll (hi : IsoInv cfg all st) :
    IsoInv cfg all (poll cfg st).1 ∧ ∀ e, (poll cfg st).2 = some e → GoodEmission cfg all e := by
  have hlm : AllRows (BlockAns cfg all) (drain st.lastMat st.chan) := allRows_drain hi.lmOK hi.chanOK
  have hkeys : ((drain st.lastMat st.chan).map (·.1)).Nodup ∧
      ∀ k, k ∈ (drain st.lastMat st.chan).map (·.1) → Fired all k := by
    rw [keys_drain]
    exact ⟨nodup_foldl_addNew _ _ hi.lmKeys.1,
      fun k hk => ((mem_foldl_addNew _ _).1 hk).elim (hi.lmKeys.2 k) (hi.chanKeys k)⟩
  constructor
  · rcases poll_fst cfg st with h | ⟨lm, hlm', h⟩
    · rw [h]; exact hi
    · rw [h]
      refine ⟨hi.store_eq, hi.same_len, allRows_nil, ?_, nofun, ?_⟩
      · rcases hlm' with rfl | rfl
        · exact allRows_nil
        · exact hlm
      · rcases hlm' with rfl | rfl
        · exact ⟨nodup_nil, nofun⟩
        · exact hkeys
  · intro e he
    obtain ⟨rfl, hlen⟩ := poll_snd he
    refine ⟨hlen, hkeys.1, fun r hr => ?_, hkeys.2⟩
    obtain ⟨h1, h2⟩ := emitRows_proj hr
    refine ⟨fun ent hent => ?_, h2⟩
    obtain ⟨a, ha, hsub⟩ := h1 ent hent
    obtain ⟨c, hc1, hc2⟩ := hlm ent hent a ha
    exact ⟨c, mem_reported.mpr hc1, a, hc2, hsub⟩

theorem mrunFrom_iso (hs : cfg.shared = false) (all : List MEv) (evs : List MEv) (st : MSt)
    (hsub : ∀ e, e ∈ evs → e ∈ all) (hi : IsoInv cfg all st) : ∀ em, em ∈ mrunFrom cfg st evs → GoodEmission cfg all em :=
  mrunFrom_forall (I := IsoInv cfg all) (E := (· ∈ all)) (fun st ev hi hev => by
    cases ev with
    | fire w c => exact ⟨isoInv_fire hs hi w c hev, nofun⟩
    | poll => exact isoInv_poll hi) evs st hi hsub

theorem mrunFrom_rows (evs : List MEv) (st : MSt) :
    ∀ e, e ∈ mrunFrom cfg st evs → e.rows = emitRows cfg e.lm :=
  mrunFrom_forall (I := fun _ => True) (E := fun _ => True) (fun st ev _ _ => by
    cases ev with
    | fire w c => exact ⟨trivial, nofun⟩
    | poll => exact ⟨trivial, fun e he => (poll_snd he).1 ▸ rfl⟩) evs st trivial fun _ _ => trivial

/-! ### window stores only ever contain stream items (the second half of `C11.static_isolated`) -/

def StreamItem (all : List MEv) (t : Triple) : Prop := ∃ w c, MEv.fire w c ∈ all ∧ t ∈ c

def StoresFromStreams (all : List MEv) (st : MSt) : Prop := ∀ s, s ∈ st.stores → ∀ t, t ∈ s → StreamItem all t

theorem storesFromStreams_step (hi : StoresFromStreams all st)
    (ev : MEv) (hev : ev ∈ all) : StoresFromStreams all (mstep cfg st ev).1 := by
  cases ev with
  | poll =>
    show StoresFromStreams all (poll cfg st).1
    rcases poll_fst cfg st with h | ⟨lm, _, h⟩ <;> rw [h] <;> exact hi
  | fire w c =>
    intro s hs t ht
    rcases mem_or_eq_of_mem_set hs with h | rfl
    · exact hi s h t ht
    · rcases (mem_foldl_insertT _ _).mp ht with h | h
      · -- an item that stays in the slot was in it before
        have h' := ((mem_foldl_eraseT _ _).mp h).1
        rw [getD_eq_getElem?_getD] at h'
        cases hg : st.stores[cfg.slot w]? with
        | none => rw [hg] at h'; cases h'
        | some s' => rw [hg] at h'; exact hi s' (mem_of_getElem? hg) t h'
      · exact ⟨w, c, hev, h⟩

theorem storesFromStreams_run (all evs : List MEv) (hsub : ∀ e, e ∈ evs → e ∈ all)
    (h : StoresFromStreams all st) : StoresFromStreams all (mstateFrom cfg st evs) := by
  induction evs generalizing st with
  | nil => exact h
  | cons ev evs ih =>
    exact ih (fun e he => hsub e (mem_cons_of_mem _ he)) (storesFromStreams_step h ev (hsub _ mem_cons_self))

/-! ### every window takes part in an emission (pigeonhole on the keys of `last_materialized`) -/

theorem lt_of_wellFormed {evs : List MEv} (hwf : WellFormed cfg evs = true) {w : Nat}
    (h : Fired evs w) : w < cfg.plans.length :=
  let ⟨_, hc⟩ := h
  of_decide_eq_true (all_eq_true.1 hwf _ hc)

theorem mem_of_nodup_full {n : Nat} {l : List Nat} (hn : l.Nodup) (hb : ∀ x, x ∈ l → x < n) (hl : l.length = n)
    {w : Nat} (hw : w < n) : w ∈ l :=
  Decidable.byContradiction fun hnot => by
    -- otherwise `w :: l` would be `n + 1` distinct numbers below `n`
    have h := Nodup.length_le_of_subset (nodup_cons.mpr ⟨hnot, hn⟩) (l₂ := range n) fun x hx =>
      mem_range.2 ((mem_cons.1 hx).elim (fun e => e ▸ hw) (hb x))
    rw [length_cons, length_range, hl] at h
    exact Nat.not_succ_le_self n h

/-! ### shared store = per-window stores when vocabularies are disjoint -/

theorem matchTerm_compat {t : Term} {x : Nat} {r r' : Row} (h : matchTerm t x r = some r') : termCompat t x = true := by
  cases t with
  | var v => rfl
  | const c =>
    rw [matchTerm] at h
    by_cases hc : c = x
    · exact beq_iff_eq.2 hc
    · rw [if_neg hc] at h; cases h

theorem matchPat_compat {p : Pat} {r r' : Row} {t : Triple} (h : matchPat p r t = some r') : patCompat p t = true := by
  simp only [matchPat, Option.bind_eq_some_iff] at h
  obtain ⟨r1, h1, r2, h2, h3⟩ := h
  simp [patCompat, matchTerm_compat h1, matchTerm_compat h2, matchTerm_compat h3]

theorem filterMap_filter_of_none {α β} (f : α → Option β) (p : α → Bool) (hf : ∀ x, p x = false → f x = none)
    (l : List α) : (l.filter p).filterMap f = l.filterMap f := by
  rw [filterMap_filter]
  congr 1; funext x
  cases hp : p x
  · exact (hf x hp).symm
  · rfl

theorem joinPat_filter (pats : List Pat) (s : List Triple) (rows : List Row) (pat : Pat) (hp : pat ∈ pats) :
    joinPat (s.filter (relevant pats)) rows pat = joinPat s rows pat := by
  unfold joinPat
  congr 1
  funext r
  refine filterMap_filter_of_none _ _ (fun t ht => ?_) s
  cases hm : matchPat pat r t with
  | none => rfl
  | some r' =>
    rw [relevant, any_eq_false] at ht
    exact absurd (matchPat_compat hm) (ht pat hp)

theorem foldl_joinPat_filter (pats : List Pat) (s : List Triple) (ps : List Pat) (rows : List Row)
    (h : ∀ p, p ∈ ps → p ∈ pats) :
    ps.foldl (joinPat (s.filter (relevant pats))) rows = ps.foldl (joinPat s) rows := by
  induction ps generalizing rows with
  | nil => rfl
  | cons p ps ih =>
    rw [foldl_cons, foldl_cons, joinPat_filter pats s rows p (h p mem_cons_self)]
    exact ih _ (fun q hq => h q (mem_cons_of_mem _ hq))

theorem evalBGP_filter_relevant (pats : List Pat) (s : List Triple) :
    evalBGP (s.filter (relevant pats)) pats = evalBGP s pats :=
  foldl_joinPat_filter pats s pats _ (fun _ h => h)

theorem filter_insertT (p : Triple → Bool) (s : List Triple) (t : Triple) :
    (insertT s t).filter p = if p t then insertT (s.filter p) t else s.filter p := by
  unfold insertT
  by_cases hts : t ∈ s
  · by_cases hp : p t = true
    · have : t ∈ s.filter p := mem_filter.mpr ⟨hts, hp⟩
      simp [hts, hp, this]
    · simp [hts, hp]
  · by_cases hp : p t = true
    · have : t ∉ s.filter p := fun h => hts (mem_filter.mp h).1
      simp [hts, hp, this, filter_append]
    · simp [hts, hp, filter_append]

theorem filter_eraseT (p : Triple → Bool) (s : List Triple) (t : Triple) :
    (eraseT s t).filter p = eraseT (s.filter p) t := by
  unfold eraseT
  rw [filter_filter, filter_filter]
  exact filter_congr fun x _ => Bool.and_comm _ _

theorem filter_foldl_eraseT (p : Triple → Bool) (l s : List Triple) :
    (l.foldl eraseT s).filter p = l.foldl eraseT (s.filter p) := by
  induction l generalizing s with
  | nil => rfl
  | cons t l ih => rw [foldl_cons, foldl_cons, ih, filter_eraseT]

theorem filter_foldl_insertT (p : Triple → Bool) (c s : List Triple) :
    (c.foldl insertT s).filter p = (c.filter p).foldl insertT (s.filter p) := by
  induction c generalizing s with
  | nil => rfl
  | cons t c ih =>
    rw [foldl_cons, ih, filter_insertT]
    cases hp : p t
    · rw [filter_cons_of_neg (by simp [hp])]; rfl
    · rw [filter_cons_of_pos hp]; rfl

theorem eraseT_of_not_mem {s : List Triple} {t : Triple} (h : t ∉ s) : eraseT s t = s :=
  filter_eq_self.mpr fun x hx => by
    have : x ≠ t := fun e => h (e ▸ hx)
    simp [this]

theorem foldl_eraseT_irrelevant (p : Triple → Bool) (l s : List Triple) (h : ∀ t, t ∈ l → p t = false) :
    l.foldl eraseT (s.filter p) = s.filter p := by
  induction l with
  | nil => rfl
  | cons t l ih =>
    have : t ∉ s.filter p := fun hm => by
      have := (mem_filter.mp hm).2
      rw [h t mem_cons_self] at this; cases this
    rw [foldl_cons, eraseT_of_not_mem this]
    exact ih (fun x hx => h x (mem_cons_of_mem _ hx))

def view (cfg : MCfg) (j : Nat) (s : List Triple) : List Triple := s.filter (relevant (cfg.plans.getD j []))

theorem view_load (j : Nat) (c prev s : List Triple) :
    view cfg j (c.foldl insertT (prev.foldl eraseT s)) =
      (c.filter (relevant (cfg.plans.getD j []))).foldl insertT (prev.foldl eraseT (view cfg j s)) := by
  rw [view, filter_foldl_insertT, filter_foldl_eraseT]; rfl

theorem view_load_congr {j : Nat} {s s' : List Triple} (h : view cfg j s = view cfg j s') (c prev : List Triple) :
    view cfg j (c.foldl insertT (prev.foldl eraseT s)) = view cfg j (c.foldl insertT (prev.foldl eraseT s')) := by
  rw [view_load, view_load, h]

theorem view_load_irrelevant {j : Nat} {c prev : List Triple} (hc : ∀ t, t ∈ c → relevant (cfg.plans.getD j []) t = false)
    (hp : ∀ t, t ∈ prev → relevant (cfg.plans.getD j []) t = false) (s : List Triple) :
    view cfg j (c.foldl insertT (prev.foldl eraseT s)) = view cfg j s := by
  rw [view_load, filter_eq_nil_iff.mpr fun t ht => ne_true_of_eq_false (hc t ht), foldl_nil]
  exact foldl_eraseT_irrelevant _ _ _ hp

theorem evalBGP_of_view {j : Nat} {s s' : List Triple} (h : view cfg j s = view cfg j s') :
    evalBGP s (cfg.plans.getD j []) = evalBGP s' (cfg.plans.getD j []) := by
  rw [← evalBGP_filter_relevant, ← evalBGP_filter_relevant (s := s')]
  exact congrArg (evalBGP · _) h

/-- the shared-store state `a` and the per-window-store state `b` look the same to every window -/
structure Sim (cfg : MCfg) (a b : MSt) : Prop where
  chan : a.chan = b.chan
  lm : a.lastMat = b.lastMat
  raws : a.prevRaws = b.prevRaws
  alen : a.stores.length = cfg.plans.length
  blen : b.stores.length = cfg.plans.length
  rlen : b.prevRaws.length = cfg.plans.length
  views : ∀ j, j < cfg.plans.length → view cfg j (a.stores.getD 0 []) = view cfg j (b.stores.getD j [])
  disj : ∀ w j, j < cfg.plans.length → j ≠ w → ∀ t, t ∈ b.prevRaws.getD w [] → relevant (cfg.plans.getD j []) t = false

theorem sim_init (cfg : MCfg) : Sim cfg (MSt.init cfg.plans.length) (MSt.init cfg.plans.length) := by
  refine ⟨rfl, rfl, rfl, by simp [MSt.init], by simp [MSt.init], by simp [MSt.init], ?_, ?_⟩
  · intro j hj
    have h0 : 0 < cfg.plans.length := Nat.lt_of_le_of_lt (Nat.zero_le _) hj
    simp [MSt.init, getD_eq_getElem?_getD, hj, h0]
  · intro w j _ _ t ht
    simp only [MSt.init, getD_eq_getElem?_getD, getElem?_replicate] at ht
    split at ht <;> simp at ht

variable {a b : MSt}

theorem sim_fire (hs : Sim cfg a b) (w : Nat) (c : List Triple)
    (hw : w < cfg.plans.length)
    (hd : ∀ t, t ∈ c → ∀ j, j < cfg.plans.length → j ≠ w → relevant (cfg.plans.getD j []) t = false) :
    Sim cfg (fireW (cfg.withShared true) a w c) (fireW (cfg.withShared false) b w c) := by
  have hvw := view_load_congr (hs.views w hw) c (b.prevRaws.getD w [])
  unfold fireW MCfg.slot MCfg.withShared
  dsimp only
  rw [if_pos rfl, if_neg Bool.false_ne_true, hs.raws]
  refine ⟨by rw [hs.chan, evalBGP_of_view hvw], hs.lm, rfl, length_set.trans hs.alen, length_set.trans hs.blen,
    length_set.trans hs.rlen, fun j hj => ?_, fun w' j hj hjw t ht => ?_⟩
  · dsimp only
    rw [getD_set_self (hs.alen ▸ Nat.zero_lt_of_lt hw)]
    by_cases hjw : j = w
    · rw [hjw, getD_set_self (hs.blen ▸ hw)]; exact hvw
    · -- `c` and window `w`'s previous content are invisible to `j`
      rw [getD_set_ne fun e => hjw e.symm, view_load_irrelevant (fun t ht => hd t ht j hj hjw) (hs.disj w j hj hjw)]
      exact hs.views j hj
  · dsimp only at ht
    by_cases hww : w = w'
    · rw [← hww, getD_set_self (hs.rlen ▸ hw)] at ht
      exact hd t ht j hj (hww ▸ hjw)
    · rw [getD_set_ne hww] at ht
      exact hs.disj w' j hj hjw t ht

theorem Sim.set_coord (hs : Sim cfg a b) (c l : List (Nat × List Row)) :
    Sim cfg { a with chan := c, lastMat := l } { b with chan := c, lastMat := l } :=
  ⟨rfl, rfl, hs.raws, hs.alen, hs.blen, hs.rlen, hs.views, hs.disj⟩

/-- the coordinator reads the channel and `last_materialized` only: not the stores, not `cfg.shared` -/
theorem sim_poll (hs : Sim cfg a b) :
    Sim cfg (poll (cfg.withShared true) a).1 (poll (cfg.withShared false) b).1 ∧
    (poll (cfg.withShared true) a).2 = (poll (cfg.withShared false) b).2 := by
  show Sim cfg (poll cfg a).1 (poll cfg b).1 ∧ (poll cfg a).2 = (poll cfg b).2
  unfold poll
  rw [hs.chan, hs.lm]
  by_cases he : b.chan.isEmpty = true
  · rw [if_pos he, if_pos he]; exact ⟨hs, rfl⟩
  · rw [if_neg he, if_neg he]
    by_cases hn : ((drain b.lastMat b.chan).length == cfg.plans.length) = true
    · rw [if_pos hn, if_pos hn]; exact ⟨hs.set_coord _ _, rfl⟩
    · rw [if_neg hn, if_neg hn]; exact ⟨hs.set_coord _ _, rfl⟩

theorem mrunFrom_sim (evs : List MEv) (hs : Sim cfg a b)
    (hwf : WellFormed cfg evs = true) (hvd : VocabDisjoint cfg evs = true) :
    mrunFrom (cfg.withShared true) a evs = mrunFrom (cfg.withShared false) b evs := by
  induction evs generalizing a b with
  | nil => rfl
  | cons ev evs ih =>
    rw [WellFormed, all_cons, Bool.and_eq_true] at hwf
    rw [VocabDisjoint, all_cons, Bool.and_eq_true] at hvd
    cases ev with
    | fire w c =>
      have hw : w < cfg.plans.length := of_decide_eq_true hwf.1
      have hd : ∀ t, t ∈ c → ∀ j, j < cfg.plans.length → j ≠ w → relevant (cfg.plans.getD j []) t = false := by
        intro t ht j hj hjw
        have h2 := all_eq_true.1 (all_eq_true.1 hvd.1 t ht) j (mem_range.mpr hj)
        rw [Bool.or_eq_true, beq_iff_eq, Bool.not_eq_true'] at h2
        exact h2.resolve_left hjw
      exact ih (sim_fire hs w c hw hd) hwf.2 hvd.2
    | poll =>
      obtain ⟨hs', hout⟩ := sim_poll hs
      rw [mrunFrom_cons, mrunFrom_cons]
      show (poll _ a).2.toList ++ mrunFrom _ (poll _ a).1 evs = (poll _ b).2.toList ++ mrunFrom _ (poll _ b).1 evs
      rw [hout, ih hs' hwf.2 hvd.2]

end Kolibrie.Rsp
