import Kolibrie.Lemmas.ProvEngine
import Kolibrie.Lemmas.ProvDnf
/-
From the engine theorem to `inferProv` (seed numbering, initial tag store) and to the executable specification
(`closure` computes `Derivable`).
-/
namespace Kolibrie.Prov

theorem Derivable.mono {P : List Rule} {F F' : Fact → Prop} (h : ∀ g, F g → F' g) {g : Fact}
    (hd : Derivable P F g) : Derivable P F' g := by
  induction hd with
  | base hb => exact Derivable.base (h _ hb)
  | rule hr _ hc ih => exact Derivable.rule hr ih hc

theorem Derivable.iff_congr {P : List Rule} {F F' : Fact → Prop} (h : ∀ g, F g ↔ F' g) (g : Fact) :
    Derivable P F g ↔ Derivable P F' g :=
  ⟨Derivable.mono (fun g => (h g).mp), Derivable.mono (fun g => (h g).mpr)⟩

theorem not_derivable_of_no_inputs {rules : List Rule} (hne : ∀ r ∈ rules, r.prem ≠ []) {F : Fact → Prop}
    (hF : ∀ g, ¬ F g) (g : Fact) : ¬ Derivable rules F g := by
  intro h
  induction h with
  | base hb => exact hF _ hb
  | @rule r σ c hr _ _ ih =>
    obtain ⟨p, hp⟩ := List.exists_mem_of_ne_nil _ (hne r hr)
    exact ih p hp

/-! ### tag stores as association lists: the entries of a key decide its tag -/

variable {T : Type}

theorem lookupTag_eq_none {ts : Tags T} {g : Fact} (h : ∀ t, (g, t) ∉ ts) : lookupTag ts g = none := by
  induction ts with
  | nil => rfl
  | cons e ts ih =>
    rw [lookupTag, if_neg (fun he : e.1 = g => h e.2 (he ▸ List.mem_cons_self)),
      ih fun t ht => h t (List.mem_cons_of_mem _ ht)]

theorem lookupTag_eq_some {ts : Tags T} {g : Fact} {t : T} (hm : (g, t) ∈ ts) (hf : ∀ t', (g, t') ∈ ts → t' = t) :
    lookupTag ts g = some t := by
  induction ts with
  | nil => cases hm
  | cons e ts ih =>
    rw [lookupTag]
    by_cases he : e.1 = g
    · rw [if_pos he, hf e.2 (he ▸ List.mem_cons_self)]
    · rw [if_neg he]
      exact ih ((List.mem_cons.mp hm).resolve_left fun h => he (h ▸ rfl)) fun t' ht' => hf t' (List.mem_cons_of_mem _ ht')

theorem mem_of_lookupTag {ts : Tags T} {g : Fact} {t : T} (h : lookupTag ts g = some t) : (g, t) ∈ ts := by
  induction ts with
  | nil => cases h
  | cons e ts ih =>
    rw [lookupTag] at h
    by_cases he : e.1 = g
    · rw [if_pos he] at h; cases h; exact he ▸ List.mem_cons_self
    · rw [if_neg he] at h; exact List.mem_cons_of_mem _ (ih h)

theorem seedTags_eq (mk : Nat → Nat → T) (sorted : List (Fact × Nat)) :
    seedTags mk sorted = (((List.range sorted.length).zip sorted).map fun e => (e.2.1, mk e.2.2 e.1)).reverse :=
  (List.foldl_flip_cons_eq_append (f := fun e : Nat × Fact × Nat => (e.2.1, mk e.2.2 e.1))).trans (List.append_nil _)

theorem mem_zip_range {α} {l : List α} {i : Nat} {e : α} : (i, e) ∈ (List.range l.length).zip l ↔ l[i]? = some e := by
  rw [List.mem_iff_getElem?]
  constructor
  · rintro ⟨j, hj⟩
    obtain ⟨h1, h2⟩ := List.getElem?_zip_eq_some.mp hj
    rw [List.getElem?_range (List.getElem?_eq_some_iff.mp h2).1] at h1
    cases h1; exact h2
  · exact fun h => ⟨i, List.getElem?_zip_eq_some.mpr ⟨List.getElem?_range (List.getElem?_eq_some_iff.mp h).1, h⟩⟩

theorem mem_seedTags {mk : Nat → Nat → T} {sorted : List (Fact × Nat)} {g : Fact} {t : T} :
    (g, t) ∈ seedTags mk sorted ↔ ∃ i k, sorted[i]? = some (g, k) ∧ t = mk k i := by
  simp only [seedTags_eq, List.mem_reverse, List.mem_map, Prod.exists, mem_zip_range, Prod.mk.injEq]
  constructor
  · rintro ⟨i, g', k, h, rfl, rfl⟩; exact ⟨i, k, h, rfl⟩
  · rintro ⟨i, k, h, rfl⟩; exact ⟨i, g, k, h, rfl, rfl⟩

theorem mem_sortSeeds {seeds : List (Fact × Nat)} {e : Fact × Nat} : e ∈ sortSeeds seeds ↔ e ∈ seeds :=
  mem_sortBy' _ _ _

theorem getTag_seedTags_one (P : Prov T) (mk : Nat → Nat → T) {seeds : List (Fact × Nat)} {g : Fact}
    (hg : g ∉ seeds.map (·.1)) : getTag P (seedTags mk (sortSeeds seeds)) g = P.one := by
  rw [getTag, lookupTag_eq_none fun t ht => ?_]; rfl
  obtain ⟨i, k, h, _⟩ := mem_seedTags.mp ht
  exact hg (List.mem_map.mpr ⟨(g, k), mem_sortSeeds.mp (List.mem_of_getElem? h), rfl⟩)

theorem getTag_seedTags (P : Prov T) (mk : Nat → Nat → T) {seeds : List (Fact × Nat)}
    (hn : (seeds.map (·.1)).Nodup) {i : Nat} {g : Fact} {k : Nat} (h : (sortSeeds seeds)[i]? = some (g, k)) :
    getTag P (seedTags mk (sortSeeds seeds)) g = mk k i := by
  rw [getTag, lookupTag_eq_some (mem_seedTags.mpr ⟨i, k, h, rfl⟩) fun t' ht' => ?_]; rfl
  -- another entry for `g` sits at the same position, because the sorted triples are distinct
  obtain ⟨j, k', h', rfl⟩ := mem_seedTags.mp ht'
  have hsn : ((sortSeeds seeds).map (·.1)).Nodup := ((sortBy'_perm _ seeds).map _).nodup_iff.mpr hn
  have hi : i < ((sortSeeds seeds).map (·.1)).length := by
    rw [List.length_map]; exact (List.getElem?_eq_some_iff.mp h).1
  have hij : i = j := (List.getElem?_inj hi hsn).mp (by rw [List.getElem?_map, List.getElem?_map, h, h']; rfl)
  subst hij
  rw [h] at h'
  cases h'; rfl

theorem exists_sortSeeds_getElem {seeds : List (Fact × Nat)} {g : Fact} {Q : Nat → Prop} :
    (∃ (i : Nat) (k : Nat), (sortSeeds seeds)[i]? = some (g, k) ∧ Q k) ↔ ∃ k, (g, k) ∈ seeds ∧ Q k := by
  constructor
  · rintro ⟨i, k, h, hq⟩; exact ⟨k, mem_sortSeeds.mp (List.mem_of_getElem? h), hq⟩
  · rintro ⟨k, h, hq⟩
    obtain ⟨i, hi⟩ := List.mem_iff_getElem?.mp (mem_sortSeeds.mpr h)
    exact ⟨i, k, hi, hq⟩

variable {W : Type} {P : Prov T} (S : Sem T W P)

/-- the inputs of world `w`, read off the initial tag store -/
def inputsW (facts : List Fact) (tags0 : Tags T) : W → Fact → Prop :=
  fun w g => g ∈ facts ∧ S.sem (getTag P tags0 g) w

theorem inputsW_seedTags (mk : Nat → Nat → T) {facts certain : List Fact} {seeds : List (Fact × Nat)}
    (hfacts : ∀ g, g ∈ facts ↔ g ∈ certain ∨ g ∈ seeds.map (·.1)) (hn : (seeds.map (·.1)).Nodup)
    (hdis : ∀ g ∈ certain, g ∉ seeds.map (·.1)) {w : W} (hw : S.ok w) (g : Fact) :
    inputsW S facts (seedTags mk (sortSeeds seeds)) w g ↔
      g ∈ certain ∨ ∃ i k, (sortSeeds seeds)[i]? = some (g, k) ∧ S.sem (mk k i) w := by
  constructor
  · rintro ⟨hg, hsem⟩
    refine ((hfacts g).mp hg).imp_right fun hs => ?_
    obtain ⟨⟨g', k⟩, hgk, rfl⟩ := List.mem_map.mp hs
    obtain ⟨i, hi⟩ := List.mem_iff_getElem?.mp (mem_sortSeeds.mpr hgk)
    exact ⟨i, k, hi, getTag_seedTags P mk hn hi ▸ hsem⟩
  · rintro (hc | ⟨i, k, hi, hsem⟩)
    · exact ⟨(hfacts g).mpr (Or.inl hc), (getTag_seedTags_one P mk (hdis g hc)).symm ▸ S.sem_one w hw⟩
    · refine ⟨(hfacts g).mpr (Or.inr ?_), (getTag_seedTags P mk hn hi).symm ▸ hsem⟩
      exact List.mem_map.mpr ⟨(g, k), mem_sortSeeds.mp (List.mem_of_getElem? hi), rfl⟩

theorem inv_init (rules : List Rule) (facts : List Fact) (tags0 : Tags T)
    (hne : ∀ r ∈ rules, r.prem ≠ []) :
    Inv S rules (inputsW S facts tags0) facts facts tags0 := by
  refine ⟨fun g hg w _ hs => Derivable.base ⟨hg, hs⟩, fun _ h => h, fun _ _ _ h => h, fun r hr σ hall => Or.inl ?_⟩
  obtain ⟨p, hp⟩ := List.exists_mem_of_ne_nil _ (hne r hr)
  exact ⟨p, hp, hall p hp⟩

theorem inferProv_pos {mk : Nat → Nat → T} {rules : List Rule} {facts : List Fact} {seeds : List (Fact × Nat)}
    {fuel : Nat} {out : Outcome T} (hpos : ∀ r ∈ rules, r.neg = [])
    (h : inferProv P mk rules facts seeds fuel = some out) :
    iter P rules fuel facts facts (seedTags mk (sortSeeds seeds)) = some (out.all, out.tags) := by
  have hf1 : rules.filter (·.neg.isEmpty) = rules :=
    List.filter_eq_self.mpr fun r hr => List.isEmpty_iff.mpr (hpos r hr)
  have hf2 : rules.filter (fun r => !r.neg.isEmpty) = [] :=
    List.filter_eq_nil_iff.mpr fun r hr => by rw [hpos r hr]; exact Bool.false_ne_true
  unfold inferProv at h
  simp only [hf1, hf2] at h
  cases hit : iter P rules fuel facts facts (seedTags mk (sortSeeds seeds)) with
  | none => rw [hit] at h; cases h
  | some res => rw [hit] at h; cases h; rfl

/-- exactness of `inferProv` on positive programs, for every semiring with a world reading: a fact is reported with a
    tag that holds in world `w` exactly when it is derivable from the inputs of `w` -/
theorem inferProv_exact (mk : Nat → Nat → T) (rules : List Rule) (facts : List Fact) (seeds : List (Fact × Nat))
    (fuel : Nat) (out : Outcome T)
    (hpos : ∀ r ∈ rules, r.neg = []) (hsafe : ∀ r ∈ rules, safeRule r = true) (hne : ∀ r ∈ rules, r.prem ≠ [])
    (h : inferProv P mk rules facts seeds fuel = some out) {w : W} (hw : S.ok w) (g : Fact) :
    (g ∈ out.all ∧ S.sem (getTag P out.tags g) w) ↔
      Derivable rules (inputsW S facts (seedTags mk (sortSeeds seeds)) w) g :=
  let ⟨h1, h2, _⟩ := iter_exact S hsafe fuel facts facts _ _ _ (inv_init S rules facts _ hne) (inferProv_pos hpos h)
  ⟨fun ⟨hg, hs⟩ => h1 g hg w hw hs, h2 w hw g⟩

theorem mem_heads {rules : List Rule} {S : List Fact} {f : Fact} :
    f ∈ heads rules S ↔ ∃ j ∈ jobs rules S S, f ∈ j.concls := by
  rw [heads, List.mem_flatMap]

theorem closure_exact (rules : List Rule) (hsafe : ∀ r ∈ rules, safeRule r = true) (hne : ∀ r ∈ rules, r.prem ≠ [])
    (F : List Fact) : ∀ (fuel : Nat) (S M : List Fact), (∀ g ∈ F, g ∈ S) → (∀ g ∈ S, Derivable rules (· ∈ F) g) →
    closure rules fuel S = some M → ∀ g, g ∈ M ↔ Derivable rules (· ∈ F) g := by
  intro fuel
  induction fuel with
  | zero => intro S M _ _ h; cases h
  | succ n ih =>
    intro S M hF hS h
    rw [closure] at h
    have hnew : ∀ f, f ∈ ((heads rules S).filter fun f => !S.contains f).eraseDups ↔ f ∈ heads rules S ∧ f ∉ S := by
      intro f
      rw [List.mem_eraseDups, List.mem_filter, Bool.not_eq_true', List.contains_eq_mem, decide_eq_false_iff_not]
    by_cases hstop : ((heads rules S).filter fun f => !S.contains f).eraseDups.isEmpty = true
    · rw [if_pos hstop] at h
      cases h
      have hclosed : ∀ f ∈ heads rules S, f ∈ S := fun f hf => Decidable.by_contra fun hnf => by
        have := (hnew f).mpr ⟨hf, hnf⟩
        rw [List.isEmpty_iff.mp hstop] at this; cases this
      refine fun g => ⟨hS g, fun hd => ?_⟩
      induction hd with
      | base hb => exact hF _ hb
      | @rule r σ c hr _ hc ihp =>
        obtain ⟨p, hp⟩ := List.exists_mem_of_ne_nil _ (hne r hr)
        exact hclosed _ (mem_heads.mpr ⟨_, jobs_complete hr (hsafe r hr) (fun _ h => h) σ ihp ⟨p, hp, ihp p hp⟩,
          List.mem_map_of_mem hc⟩)
    · rw [if_neg hstop] at h
      refine ih _ M (fun g hg => List.mem_append_left _ (hF g hg)) (fun g hg => ?_) h
      rcases List.mem_append.mp hg with h1 | h1
      · exact hS g h1
      · obtain ⟨j, hj, hgj⟩ := mem_heads.mp ((hnew g).mp h1).1
        obtain ⟨r, hr, σ, rfl, hk⟩ := jobs_sound (fun _ h => h) hj
        exact Derivable.of_instance hr σ (fun p hp => hS p (hk p hp)) g hgj

/-- a syntactic invariant of tags (e.g. "mentions only seed variables"): a predicate that the semiring operations of the
    positive engine preserve -/
structure TagClosed (P : Prov T) (Q : T → Prop) : Prop where
  one : Q P.one
  conj : ∀ a b, Q a → Q b → Q (P.conj a b)
  disj : ∀ a b, Q a → Q b → Q (P.disj a b)

theorem getTag_setTag_of {Q : T → Prop} {ts : Tags T} (h : ∀ g, Q (getTag P ts g)) (f : Fact) {t : T} (ht : Q t)
    (g : Fact) : Q (getTag P (setTag ts f t) g) := by
  rw [getTag_setTag]
  by_cases hfg : f = g
  · rw [if_pos hfg]; exact ht
  · rw [if_neg hfg]; exact h g

namespace TagClosed
variable {Q : T → Prop} (hQ : TagClosed P Q)
include hQ

theorem processJob (known : List Fact) (st : RState T) (j : Job) (h : ∀ g, Q (getTag P st.tags g)) :
    ∀ g, Q (getTag P (processJob P known st j).tags g) := by
  unfold Prov.processJob
  by_cases hz : P.isZero (conjTags P st.tags j.prems) = true
  · rw [if_pos hz]; exact h
  · rw [if_neg hz]
    have hc : Q (conjTags P st.tags j.prems) :=
      List.foldlRecOn j.prems _ hQ.one fun acc ha f _ => hQ.conj _ _ ha (h f)
    refine List.foldlRecOn j.concls _ (motive := fun st' : RState T => ∀ g, Q (getTag P st'.tags g)) h fun st' h' c _ => ?_
    rcases processConcl_cases P known (conjTags P st.tags j.prems) st' c with
      ⟨_, _, e⟩ | ⟨_, ⟨_, e⟩ | ⟨_, _, e⟩⟩ <;> rw [e]
    · exact getTag_setTag_of h' c hc
    · exact h'
    · exact getTag_setTag_of h' c (hQ.disj _ _ (h' c) hc)

theorem iter (rules : List Rule) : ∀ (fuel : Nat) (all delta : List Fact) (tags : Tags T) (all' : List Fact)
    (tags' : Tags T), (∀ g, Q (getTag P tags g)) →
    iter P rules fuel all delta tags = some (all', tags') → ∀ g, Q (getTag P tags' g) := by
  intro fuel
  induction fuel with
  | zero => intro _ _ _ _ _ _ h; cases h
  | succ n ih =>
    intro all delta tags all' tags' hq h
    have hr : ∀ g, Q (getTag P (round P rules all delta tags).tags g) :=
      List.foldlRecOn (jobs rules all delta) _ (motive := fun st : RState T => ∀ g, Q (getTag P st.tags g)) hq
        fun st h j _ => hQ.processJob all st j h
    rw [Prov.iter] at h
    generalize round P rules all delta tags = st at h hr
    by_cases hstop : (st.newFacts.isEmpty && st.improved.isEmpty) = true
    · rw [if_pos hstop] at h; cases h; exact hr
    · rw [if_neg hstop] at h; exact ih _ _ _ _ _ hr h

theorem inferProv (mk : Nat → Nat → T) (rules : List Rule) (facts : List Fact)
    (seeds : List (Fact × Nat)) (fuel : Nat) (out : Outcome T) (hpos : ∀ r ∈ rules, r.neg = [])
    (hmk : ∀ i e, (sortSeeds seeds)[i]? = some e → Q (mk e.2 i))
    (h : inferProv P mk rules facts seeds fuel = some out) : ∀ g, Q (getTag P out.tags g) := by
  refine hQ.iter rules fuel _ _ _ _ _ (fun g => ?_) (inferProv_pos hpos h)
  -- a tag of the seed store is `one` or some `mk k i`
  rw [getTag]
  cases hl : lookupTag (seedTags mk (sortSeeds seeds)) g with
  | none => exact hQ.one
  | some t =>
    obtain ⟨i, k, hi, rfl⟩ := mem_seedTags.mp (mem_of_lookupTag hl)
    exact hmk i (g, k) hi

end TagClosed

end Kolibrie.Prov
