import Kolibrie.Lemmas.Sld
import Std.Data.String.ToNat
/-! `rename_rule_variables` (C18): `v{n}` is injective in `n` and the loop that skips reserved names ends on a fresh
    one; the renamed rule is the rule under one variable map whose values are newly generated names, pairwise
    distinct and never reserved (`renameRule_fresh`); and the valuation under which a renamed rule instance reads
    like the original one (`extendVal`). -/
namespace Kolibrie.Sld
open Kolibrie.Terms Kolibrie.SldSpec

theorem genName_inj {a b : Nat} (h : genName a = genName b) : a = b :=
  Nat.repr_injective ((String.append_right_inj "v").1 h)

theorem freshName_cases (reserved : List String) (fuel : Nat) : ∀ c : Nat,
    (∃ k, c ≤ k ∧ genName k ∉ reserved ∧ freshName reserved fuel c = (genName k, k + 1)) ∨
    (∀ j, j < fuel → genName (c + j) ∈ reserved) := by
  induction fuel with
  | zero => exact fun _ => .inr fun _ hj => nomatch hj
  | succ n ih =>
    intro c
    unfold freshName
    by_cases hc : genName c ∈ reserved
    · rw [if_pos hc]
      rcases ih (c + 1) with ⟨k, hk, h⟩ | h
      · exact .inl ⟨k, Nat.le_of_succ_le hk, h⟩
      · refine .inr fun j hj => ?_
        cases j with
        | zero => exact hc
        | succ j =>
          have := h j (Nat.lt_of_succ_lt_succ hj)
          rwa [Nat.add_right_comm] at this
    · rw [if_neg hc]; exact .inl ⟨c, Nat.le_refl _, hc, rfl⟩

/-- pigeonhole: `fuel` distinct generated names do not all fit into `reserved` -/
theorem freshName_spec (reserved : List String) (fuel c : Nat) (hf : reserved.length < fuel) :
    ∃ k, c ≤ k ∧ genName k ∉ reserved ∧ freshName reserved fuel c = (genName k, k + 1) := by
  refine (freshName_cases reserved fuel c).resolve_right fun h => ?_
  have hnd : ((List.range fuel).map fun j => genName (c + j)).Nodup :=
    List.Pairwise.map _ (fun a b hab heq => hab (Nat.add_left_cancel (genName_inj heq))) List.nodup_range
  have hsub : ((List.range fuel).map fun j => genName (c + j)) ⊆ reserved := by
    intro x hx
    obtain ⟨j, hj, rfl⟩ := List.mem_map.1 hx
    exact h j (List.mem_range.1 hj)
  have := hnd.length_le_of_subset hsub
  rw [List.length_map, List.length_range] at this
  exact absurd hf (Nat.not_lt.2 this)

/-! ### renaming = applying one variable map -/

theorem lookupV_mem {v n} {m : VarMap} (h : lookupV v m = some n) : (v, n) ∈ m := by
  induction m with
  | nil => cases h
  | cons e m ih =>
    unfold lookupV at h
    by_cases hv : v = e.1
    · rw [if_pos hv] at h; cases h; cases hv; exact List.mem_cons_self
    · rw [if_neg hv] at h; exact List.mem_cons_of_mem _ (ih h)

def applyMapT (m : VarMap) : Term → Term
  | .const c => .const c
  | .var v => .var ((lookupV v m).getD v)

def applyMapP (m : VarMap) (q : Pattern) : Pattern := ⟨applyMapT m q.s, applyMapT m q.p, applyMapT m q.o⟩

theorem applyMapT_eval (σ : String → Nat) (m : VarMap) (t : Term) :
    (applyMapT m t).eval σ = t.eval (fun v => σ ((lookupV v m).getD v)) := by
  cases t <;> rfl

theorem applyMapP_inst (σ : String → Nat) (m : VarMap) (q : Pattern) :
    (applyMapP m q).inst σ = q.inst (fun v => σ ((lookupV v m).getD v)) := by
  simp only [applyMapP, Pattern.inst, applyMapT_eval]

def Ext (m m' : VarMap) : Prop := ∀ v n, lookupV v m = some n → lookupV v m' = some n

theorem Ext.refl (m : VarMap) : Ext m m := fun _ _ h => h
theorem Ext.trans {a b c : VarMap} (h1 : Ext a b) (h2 : Ext b c) : Ext a c := fun v n h => h2 v n (h1 v n h)

def TermMapped (m : VarMap) (t : Term) : Prop := ∀ v, t = .var v → ∃ n, lookupV v m = some n
def PatMapped (m : VarMap) (q : Pattern) : Prop := TermMapped m q.s ∧ TermMapped m q.p ∧ TermMapped m q.o

theorem TermMapped.ext {m m' t} (h : TermMapped m t) (he : Ext m m') : TermMapped m' t :=
  fun v hv => let ⟨n, hn⟩ := h v hv; ⟨n, he v n hn⟩
theorem PatMapped.ext {m m' q} (h : PatMapped m q) (he : Ext m m') : PatMapped m' q :=
  ⟨h.1.ext he, h.2.1.ext he, h.2.2.ext he⟩

theorem applyMapT_ext {m m' t} (h : TermMapped m t) (he : Ext m m') : applyMapT m' t = applyMapT m t := by
  cases t with
  | const k => rfl
  | var v => obtain ⟨n, hn⟩ := h v rfl; simp only [applyMapT, hn, he v n hn]

theorem applyMapP_ext {m m' q} (h : PatMapped m q) (he : Ext m m') : applyMapP m' q = applyMapP m q := by
  simp only [applyMapP, applyMapT_ext h.1 he, applyMapT_ext h.2.1 he, applyMapT_ext h.2.2 he]

/-- invariant of the renaming state started at counter `c0` -/
structure RInv (reserved : List String) (c0 : Nat) (st : RState) : Prop where
  le : c0 ≤ st.counter
  rng : ∀ v n, (v, n) ∈ st.map → n ∉ reserved ∧ ∃ k, c0 ≤ k ∧ k < st.counter ∧ n = genName k
  inj : ∀ v v' n, (v, n) ∈ st.map → (v', n) ∈ st.map → v = v'

/-- One step keeps the invariant, only extends the map, maps the variable of its term, and returns the image of
    the term under the new map.  By `applyMapT_ext` the last two survive all later steps. -/
theorem renameTerm_spec {reserved c0 t st y st'} (hi : RInv reserved c0 st) (h : renameTerm reserved t st = (y, st')) :
    RInv reserved c0 st' ∧ Ext st.map st'.map ∧ TermMapped st'.map t ∧ y = applyMapT st'.map t := by
  cases t with
  | const k => cases h; exact ⟨hi, Ext.refl _, fun _ h => (nomatch h), rfl⟩
  | var v =>
    unfold renameTerm at h
    cases hl : lookupV v st.map with
    | some nv =>
      simp only [hl] at h
      cases h
      exact ⟨hi, Ext.refl _, fun w hw => by cases hw; exact ⟨nv, hl⟩, by simp only [applyMapT, hl, Option.getD_some]⟩
    | none =>
      obtain ⟨k, hk, hres, hf⟩ := freshName_spec reserved _ st.counter (Nat.lt_succ_self _)
      simp only [hl, hf] at h
      cases h
      have hlook : lookupV v ((v, genName k) :: st.map) = some (genName k) := if_pos rfl
      -- the new name is not yet a value of the map: all values were generated below the old counter
      have fresh : ∀ u, (u, genName k) ∉ st.map := fun u hu => by
        obtain ⟨_, k', _, h3, h4⟩ := hi.rng u _ hu
        cases genName_inj h4
        exact Nat.lt_irrefl _ (Nat.lt_of_lt_of_le h3 hk)
      refine ⟨⟨Nat.le_succ_of_le (Nat.le_trans hi.le hk), ?_, ?_⟩, ?_, fun w hw => by cases hw; exact ⟨_, hlook⟩,
        by simp only [applyMapT, hlook, Option.getD_some]⟩
      · intro w n hm
        rcases List.mem_cons.1 hm with h | h
        · cases h; exact ⟨hres, k, Nat.le_trans hi.le hk, Nat.lt_succ_self k, rfl⟩
        · obtain ⟨h1, k', h2, h3, h4⟩ := hi.rng w n h
          exact ⟨h1, k', h2, Nat.lt_succ_of_lt (Nat.lt_of_lt_of_le h3 hk), h4⟩
      · intro w w' n hm hm'
        rcases List.mem_cons.1 hm with h | h <;> rcases List.mem_cons.1 hm' with h' | h'
        · cases h; cases h'; rfl
        · cases h; exact absurd h' (fresh w')
        · cases h'; exact absurd h (fresh w)
        · exact hi.inj w w' n h h'
      · intro w n hw
        have hwv : w ≠ v := fun e => by rw [e, hl] at hw; cases hw
        exact (if_neg hwv).trans hw

theorem renamePat_spec {reserved c0 q st y st'} (hi : RInv reserved c0 st) (h : renamePat reserved q st = (y, st')) :
    RInv reserved c0 st' ∧ Ext st.map st'.map ∧ PatMapped st'.map q ∧ y = applyMapP st'.map q := by
  rcases h1 : renameTerm reserved q.s st with ⟨s, st1⟩
  rcases h2 : renameTerm reserved q.p st1 with ⟨p, st2⟩
  rcases h3 : renameTerm reserved q.o st2 with ⟨o, st3⟩
  obtain ⟨i1, e1, m1, rfl⟩ := renameTerm_spec hi h1
  obtain ⟨i2, e2, m2, rfl⟩ := renameTerm_spec i1 h2
  obtain ⟨i3, e3, m3, rfl⟩ := renameTerm_spec i2 h3
  simp only [renamePat, h1, h2, h3] at h
  cases h
  refine ⟨i3, e1.trans (e2.trans e3), ⟨m1.ext (e2.trans e3), m2.ext e3, m3⟩, ?_⟩
  rw [applyMapP, applyMapT_ext m1 (e2.trans e3), applyMapT_ext m2 e3]

theorem renamePats_spec {reserved c0} {qs : List Pattern} : ∀ {st ys st'}, RInv reserved c0 st →
    renamePats reserved qs st = (ys, st') →
    RInv reserved c0 st' ∧ Ext st.map st'.map ∧ (∀ q ∈ qs, PatMapped st'.map q) ∧ ys = qs.map (applyMapP st'.map) := by
  induction qs with
  | nil => intro st ys st' hi h; cases h; exact ⟨hi, Ext.refl _, fun _ h => (nomatch h), rfl⟩
  | cons q qs ih =>
    intro st ys st' hi h
    rcases h1 : renamePat reserved q st with ⟨q', st1⟩
    rcases h2 : renamePats reserved qs st1 with ⟨qs', st2⟩
    obtain ⟨i1, e1, m1, rfl⟩ := renamePat_spec hi h1
    obtain ⟨i2, e2, m2, rfl⟩ := ih i1 h2
    simp only [renamePats, h1, h2] at h
    cases h
    refine ⟨i2, e1.trans e2, ?_, ?_⟩
    · intro q' hq'
      rcases List.mem_cons.1 hq' with rfl | hq'
      · exact m1.ext e2
      · exact m2 q' hq'
    · rw [List.map_cons, applyMapP_ext m1 e2]

theorem renameRule_fresh (reserved : List String) (r : Rule) (c : Nat) :
    ∃ st : RState, RInv reserved c st ∧
      renameRule reserved r c =
        (⟨r.premise.map (applyMapP st.map), r.conclusion.map (applyMapP st.map)⟩, st.counter) ∧
      ∀ q, q ∈ r.premise ∨ q ∈ r.conclusion → PatMapped st.map q := by
  rcases h1 : renamePats reserved r.premise ⟨[], c⟩ with ⟨prem, st1⟩
  rcases h2 : renamePats reserved r.conclusion st1 with ⟨concl, st2⟩
  have i0 : RInv reserved c ⟨[], c⟩ := ⟨Nat.le_refl c, fun _ _ h => (nomatch h), fun _ _ _ h => (nomatch h)⟩
  obtain ⟨i1, _, m1, rfl⟩ := renamePats_spec i0 h1
  obtain ⟨i2, e2, m2, rfl⟩ := renamePats_spec i1 h2
  refine ⟨st2, i2, ?_, ?_⟩
  · simp only [renameRule, h1, h2]
    rw [List.map_congr_left fun q hq => (applyMapP_ext (m1 q hq) e2).symm]
  · rintro q (hq | hq)
    · exact (m1 q hq).ext e2
    · exact m2 q hq

/-! ### the valuation for a renamed rule instance -/

/-- `σ` overridden on the generated names: the new name of rule variable `v` gets `θ v` -/
def extendVal (m : VarMap) (θ σ : String → Nat) : String → Nat := fun x =>
  match m.find? (fun e => e.2 == x) with
  | some e => θ e.1
  | none => σ x

theorem extendVal_old {m : VarMap} {θ σ : String → Nat} {x : String} (h : ∀ v n, (v, n) ∈ m → n ≠ x) :
    extendVal m θ σ x = σ x := by
  unfold extendVal
  cases hf : m.find? (fun e => e.2 == x) with
  | none => rfl
  | some e =>
    have hp := List.find?_some hf
    exact absurd (eq_of_beq hp) (h e.1 e.2 (List.mem_of_find?_eq_some hf))

section
variable {reserved : List String} {c : Nat} {st : RState} (hi : RInv reserved c st) {θ σ : String → Nat}
include hi

theorem extendVal_new {v n : String} (h : (v, n) ∈ st.map) : extendVal st.map θ σ n = θ v := by
  unfold extendVal
  cases hf : st.map.find? (fun e => e.2 == n) with
  | none => exact absurd (List.find?_eq_none.1 hf (v, n) h) (by simp)
  | some e =>
    obtain ⟨w, u⟩ := e
    have hp := List.find?_some hf
    cases eq_of_beq hp
    rw [hi.inj w v u (List.mem_of_find?_eq_some hf) h]

theorem applyMapT_extend {t : Term} (hm : TermMapped st.map t) :
    (applyMapT st.map t).eval (extendVal st.map θ σ) = t.eval θ := by
  cases t with
  | const k => rfl
  | var v =>
    obtain ⟨n, hn⟩ := hm v rfl
    simp only [applyMapT, hn, Option.getD_some, Term.eval]
    exact extendVal_new hi (lookupV_mem hn)

theorem applyMapP_extend {q : Pattern} (hm : PatMapped st.map q) :
    (applyMapP st.map q).inst (extendVal st.map θ σ) = q.inst θ := by
  simp only [applyMapP, Pattern.inst, applyMapT_extend hi hm.1, applyMapT_extend hi hm.2.1,
    applyMapT_extend hi hm.2.2]

theorem applyMapT_known {t : Term} (hm : TermMapped st.map t) : TermKnown reserved st.counter (applyMapT st.map t) := by
  cases t with
  | const k => exact termKnown_const _ _
  | var v =>
    obtain ⟨n, hn⟩ := hm v rfl
    intro w hw
    simp only [applyMapT, hn, Option.getD_some, Term.var.injEq] at hw
    subst hw
    obtain ⟨_, k, _, hk, rfl⟩ := hi.rng v n (lookupV_mem hn)
    exact .inr ⟨k, hk, rfl⟩

theorem applyMapP_known {q : Pattern} (hm : PatMapped st.map q) : PatKnown reserved st.counter (applyMapP st.map q) :=
  ⟨applyMapT_known hi hm.1, applyMapT_known hi hm.2.1, applyMapT_known hi hm.2.2⟩

theorem map_applyMapP_known {qs : List Pattern} (hm : ∀ q ∈ qs, PatMapped st.map q) :
    ∀ p ∈ qs.map (applyMapP st.map), PatKnown reserved st.counter p := by
  intro p hp
  obtain ⟨q, hq, rfl⟩ := List.mem_map.1 hp
  exact applyMapP_known hi (hm q hq)

theorem extendVal_agree : AgreeOn reserved c σ (extendVal st.map θ σ) := by
  intro x hx
  refine extendVal_old fun v n hm hnx => ?_
  subst hnx
  obtain ⟨hres, k, hk, _, rfl⟩ := hi.rng v n hm
  rcases hx with h | ⟨k', hk', h⟩
  · exact hres h
  · cases genName_inj h; exact Nat.lt_irrefl _ (Nat.lt_of_lt_of_le hk' hk)

end

end Kolibrie.Sld
