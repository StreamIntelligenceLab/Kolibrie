import Kolibrie.Lemmas.RepairSearch
/-! Enumeration of repairs in the specification, the IAR query, repair-aware materialisation (C19). -/
namespace Kolibrie.Repairs
open Kolibrie.Terms Kolibrie.RepairSpec

section
variable {α : Type}

theorem subs_subset {F : List α} : ∀ {S : List α}, S ∈ subs F → S ⊆ F := by
  induction F with
  | nil => intro S h; cases List.mem_singleton.1 h; exact List.Subset.refl _
  | cons a F ih =>
    intro S h
    rcases List.mem_append.1 h with h | h
    · obtain ⟨S', hS', rfl⟩ := List.mem_map.1 h
      exact List.cons_subset_cons a (ih hS')
    · exact List.subset_cons_of_subset a (ih h)

theorem filter_mem_subs (p : α → Bool) (F : List α) : F.filter p ∈ subs F := by
  induction F with
  | nil => exact List.mem_singleton.2 rfl
  | cons a F ih =>
    rw [List.filter_cons]
    cases p a
    · exact List.mem_append_right _ ih
    · exact List.mem_append_left _ (List.mem_map_of_mem ih)

variable [DecidableEq α]

/-- the sublist of `F` with the elements of `S`: the representative of the set `S` that `subs F` enumerates -/
theorem mem_filter_mem {F S : List α} (h : S ⊆ F) (x : α) : x ∈ F.filter (fun x => decide (x ∈ S)) ↔ x ∈ S := by
  rw [List.mem_filter, decide_eq_true_eq]
  exact ⟨And.right, fun hx => ⟨h hx, hx⟩⟩

omit [DecidableEq α] in
theorem isRepair_congr {viol : List α → Bool} (hv : SetInv viol) {F F' S S' : List α} (hF : ∀ x, x ∈ F ↔ x ∈ F')
    (h : ∀ x, x ∈ S ↔ x ∈ S') (hS : IsRepair viol F S) : IsRepair viol F' S' :=
  ⟨fun _ hx => (hF _).1 (hS.1 ((h _).2 hx)), (hv S S' h).symm.trans hS.2.1,
    fun T hT hS'T hTc _ hx =>
      (h _).1 (hS.2.2 T (fun _ hy => (hF _).2 (hT hy)) (fun _ hy => hS'T ((h _).1 hy)) hTc hx)⟩

theorem allRepairs_iff {viol : List α → Bool} (hv : SetInv viol) (F S : List α) :
    S ∈ allRepairs viol F ↔ S ∈ subs F ∧ IsRepair viol F S := by
  simp only [allRepairs, List.mem_filter, Bool.and_eq_true, Bool.not_eq_true', List.all_eq_true,
    Bool.or_eq_true, sup_iff, IsRepair]
  refine and_congr_right fun hS => ⟨fun ⟨hcons, hmax⟩ => ⟨subs_subset hS, hcons, fun T hTF hST hT => ?_⟩,
    fun ⟨_, hcons, hmax⟩ => ⟨hcons, fun T hT => ?_⟩⟩
  · -- the enumeration holds the sublist of `F` with the elements of `T`
    have hmem := mem_filter_mem hTF
    rcases hmax _ (filter_mem_subs (fun x => decide (x ∈ T)) F) with (h | h) | h
    · exact absurd (sup_iff.2 fun x hx => (hmem x).2 (hST hx)) (Bool.eq_false_iff.1 h)
    · rw [hv _ T hmem, hT] at h; cases h
    · exact fun x hx => h ((hmem x).2 hx)
  · by_cases h1 : S ⊆ T
    · cases h2 : viol T
      · exact .inr (hmax T (subs_subset hT) h1 h2)
      · exact .inl (.inr rfl)
    · exact .inl (.inl (Bool.eq_false_iff.2 fun h => h1 (sup_iff.1 h)))

theorem filter_mem_allRepairs {viol : List α → Bool} (hv : SetInv viol) {F S : List α} (hS : IsRepair viol F S) :
    F.filter (fun x => decide (x ∈ S)) ∈ allRepairs viol F :=
  (allRepairs_iff hv F _).2
    ⟨filter_mem_subs _ F, isRepair_congr hv (fun _ => .rfl) (fun x => (mem_filter_mem hS.1 x).symm) hS⟩

omit [DecidableEq α] in
theorem foldl_inv {β : Type} (P : β → Prop) (f : β → α → β) (l : List α) (hf : ∀ b, ∀ x ∈ l, P b → P (f b x)) :
    ∀ b : β, P b → P (l.foldl f b) := by
  induction l with
  | nil => exact fun _ h => h
  | cons x l ih =>
    exact fun b h => ih (fun b y hy => hf b y (List.mem_cons_of_mem _ hy)) _ (hf b x List.mem_cons_self h)

omit [DecidableEq α] in
theorem maxByLen_mem {l : List (List α)} {b : List α} (h : maxByLen l = some b) : b ∈ l := by
  cases l with
  | nil => cases h
  | cons r rs =>
    cases h
    refine foldl_inv (· ∈ r :: rs) _ rs (fun best x hx hb => ?_) r List.mem_cons_self
    by_cases hl : x.length ≥ best.length
    · rw [if_pos hl]; exact List.mem_cons_of_mem _ hx
    · rw [if_neg hl]; exact hb

end

theorem queryWithRepairs_spec {viol : List Fact → Bool} {F : List Fact} {R : List (List Fact)}
    (h0 : viol [] = false) (hs : ∀ r ∈ R, IsRepair viol F r) (hc : ∀ S, IsRepair viol F S → Repr' R S)
    (q : Pattern) (b : Binding) :
    b ∈ queryWithRepairs R q ↔ ∃ f, matchPat q f [] = some b ∧ ∀ S, IsRepair viol F S → f ∈ S := by
  cases R with
  | nil =>
    obtain ⟨S, hS⟩ := exists_repair (F := F) h0
    obtain ⟨r, hr, _⟩ := hc S hS
    cases hr
  | cons first rest =>
    simp only [queryWithRepairs, List.mem_filter, List.mem_filterMap, List.all_eq_true, List.any_eq_true,
      beq_iff_eq]
    constructor
    · -- the fact behind `b` is in `first`, and every other repair holds a fact with the same binding: the same fact
      rintro ⟨⟨f, hf, hm⟩, hall⟩
      refine ⟨f, hm, fun S hS => ?_⟩
      obtain ⟨r, hr, _, hrS⟩ := hc S hS
      rcases List.mem_cons.1 hr with rfl | hr
      · exact hrS hf
      · obtain ⟨f', hf', hm'⟩ := hall r hr
        exact hrS (matchPat_inj hm hm' ▸ hf')
    · rintro ⟨f, hm, hall⟩
      exact ⟨⟨f, hall first (hs first List.mem_cons_self), hm⟩,
        fun r hr => ⟨f, hall r (hs r (List.mem_cons_of_mem _ hr)), hm⟩⟩

/-- a candidate is only added after the enlarged set passed the consistency test -/
theorem addCandidate_consistent (C : List (List Pattern)) (a : Acc) (f : Fact)
    (h : violates C a.all = false) : violates C (addCandidate C a f).all = false := by
  unfold addCandidate
  by_cases hf : f ∈ a.all
  · simp only [hf, not_true_eq_false, if_false, ite_self]
    exact h
  · simp only [hf, not_false_eq_true, if_true, if_false]
    cases hv : violates C (a.all ++ [f]) with
    | false => simp only [Bool.not_false, if_true]; exact hv
    | true => simp only [Bool.not_true, Bool.false_eq_true, if_false]; exact h

theorem inferRound_consistent (C : List (List Pattern)) (rules : List Rule) (ord : List Binding → List Binding)
    (all delta inferred : List Fact) (h : violates C all = false) :
    violates C (inferRound C rules ord all delta inferred).all = false := by
  unfold inferRound
  refine foldl_inv (fun a : Acc => violates C a.all = false) _ _ (fun a rule _ ha => ?_) _ h
  refine foldl_inv (fun a : Acc => violates C a.all = false) _ _ (fun a b _ ha => ?_) _ ha
  exact foldl_inv (fun a : Acc => violates C a.all = false) _ _ (fun a c _ => addCandidate_consistent C a _) _ ha

theorem inferLoop_consistent (C : List (List Pattern)) (rules : List Rule) (ord : List Binding → List Binding)
    (fuel : Nat) : ∀ (all delta inferred : List Fact) (res : List Fact × List Fact),
      violates C all = false → inferLoop C rules ord fuel all delta inferred = some res →
      violates C res.1 = false := by
  induction fuel with
  | zero => exact fun _ _ _ _ _ h => nomatch h
  | succ n ih =>
    intro all delta inferred res hall h
    have hr := inferRound_consistent C rules ord all delta inferred hall
    unfold inferLoop at h
    by_cases he : (inferRound C rules ord all delta inferred).delta.isEmpty = true
    · rw [if_pos he] at h; cases h; exact hr
    · rw [if_neg he] at h; exact ih _ _ _ res hr h

end Kolibrie.Repairs
