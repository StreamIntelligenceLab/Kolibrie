import Kolibrie.Model.Window
import Kolibrie.Spec.Window
/-!
Lemmas for C09.  The window state is tied to the stream by the invariant `Inv`; one call of `add_to_window` keeps it
(`step_inv`) and hands the consumer exactly what the state-free reference says (`step_eq_spec`), so a whole run is
the reference run (`runFrom_eq_spec`).  Everything else that is claimed about the firings of a run is proved about
the reference `reportsFrom`, where there is no window state to carry along.
-/
namespace Kolibrie.Window
open Kolibrie.Extracted

/-! The guards and the `max_by` direction as `tools/extract.py` regenerates them from `s2r.rs`: a flipped comparison
in the source breaks these four proofs. -/

theorem memberGuard_iff {o c t : Nat} : memberGuard o c t = true ↔ o ≤ t ∧ t < c := by
  simp [memberGuard]

theorem reportGuard_iff {o c t : Nat} : reportGuard o c t = true ↔ c ≤ t := by
  simp [reportGuard]

theorem fireGuard_iff {t a : Nat} : fireGuard t a = true ↔ a < t := by
  simp [fireGuard]

theorem pickLatest_true : pickLatest = true := rfl

theorem mem_insertItem {l : List Nat} {x y : Nat} : y ∈ insertItem l x ↔ y ∈ l ∨ y = x := by
  unfold insertItem
  by_cases h : x ∈ l
  · rw [if_pos h]
    exact ⟨Or.inl, fun h' => h'.elim id fun e => e ▸ h⟩
  · rw [if_neg h, List.mem_append, List.mem_singleton]

theorem insertItem_nodup {l : List Nat} (x : Nat) (h : l.Nodup) : (insertItem l x).Nodup := by
  unfold insertItem
  by_cases hx : x ∈ l
  · rw [if_pos hx]; exact h
  · rw [if_neg hx]
    refine List.nodup_append.2 ⟨h, List.pairwise_singleton _ x, fun a ha b hb e => hx ?_⟩
    rw [← List.mem_singleton.1 hb, ← e]; exact ha

theorem foldl_insertItem_mem (l acc : List Nat) (y : Nat) :
    y ∈ l.foldl insertItem acc ↔ y ∈ acc ∨ y ∈ l := by
  induction l generalizing acc with
  | nil => simp
  | cons a l ih => rw [List.foldl_cons, ih, mem_insertItem, List.mem_cons, or_assoc]

theorem foldl_insertItem_nodup (l acc : List Nat) (h : acc.Nodup) : (l.foldl insertItem acc).Nodup := by
  induction l generalizing acc with
  | nil => exact h
  | cons a l ih => exact ih _ (insertItem_nodup a h)

theorem inInterval_iff {w c t : Nat} : inInterval w c t = true ↔ c - w ≤ t ∧ t < c := by
  simp [inInterval]

theorem contentOf_snoc (w : Nat) (p : List (Nat × Nat)) (x t c : Nat) :
    contentOf w (p ++ [(x, t)]) c =
      if inInterval w c t then insertItem (contentOf w p c) x else contentOf w p c := by
  unfold contentOf
  by_cases h : inInterval w c t = true <;> simp [List.filter_append, h]

theorem mem_contentOf {w : Nat} {p : List (Nat × Nat)} {c y : Nat} :
    y ∈ contentOf w p c ↔ ∃ t, (y, t) ∈ p ∧ c - w ≤ t ∧ t < c := by
  unfold contentOf
  rw [foldl_insertItem_mem]
  simp only [List.not_mem_nil, false_or, List.mem_map, List.mem_filter, inInterval_iff]
  constructor
  · rintro ⟨⟨a, b⟩, ⟨hm, h⟩, rfl⟩
    exact ⟨b, hm, h⟩
  · rintro ⟨t, hm, h⟩
    exact ⟨(y, t), ⟨hm, h⟩, rfl⟩

theorem contentOf_eq_nil (w : Nat) (p : List (Nat × Nat)) (c : Nat)
    (h : ∀ it ∈ p, ¬ (c - w ≤ it.2 ∧ it.2 < c)) : contentOf w p c = [] :=
  List.eq_nil_iff_forall_not_mem.2 fun y hy =>
    let ⟨t, hm, ht⟩ := mem_contentOf.1 hy
    h (y, t) hm ht

theorem contentOf_nodup (w : Nat) (p : List (Nat × Nat)) (c : Nat) : (contentOf w p c).Nodup :=
  foldl_insertItem_nodup _ _ List.nodup_nil

@[simp] theorem lastTs_nil : lastTs [] = none := rfl

@[simp] theorem lastTs_snoc (p : List (Nat × Nat)) (x t : Nat) : lastTs (p ++ [(x, t)]) = some t := by
  simp [lastTs]

theorem lastTs_eq_none {p : List (Nat × Nat)} (h : lastTs p = none) : p = [] := by
  simpa [lastTs] using h

theorem lastTs_eq_some {p : List (Nat × Nat)} {tp : Nat} (h : lastTs p = some tp) :
    ∃ q x, p = q ++ [(x, tp)] := by
  obtain ⟨⟨x, t⟩, hl, rfl⟩ := Option.map_eq_some_iff.1 h
  obtain ⟨q, rfl⟩ := List.getLast?_eq_some_iff.1 hl
  exact ⟨q, x, rfl⟩

theorem lastTs_mem {p : List (Nat × Nat)} {tp : Nat} (h : lastTs p = some tp) : ∃ it ∈ p, it.2 = tp := by
  obtain ⟨q, x, rfl⟩ := lastTs_eq_some h
  exact ⟨(x, tp), List.mem_append_right _ (List.mem_singleton_self _), rfl⟩

theorem le_lastTs {p : List (Nat × Nat)} (hp : InOrder p) {tp : Nat} (hl : lastTs p = some tp) :
    ∀ it ∈ p, it.2 ≤ tp := by
  obtain ⟨q, x, rfl⟩ := lastTs_eq_some hl
  intro it hit
  rcases List.mem_append.1 hit with h | h
  · exact (List.pairwise_append.1 hp).2.2 it h _ (List.mem_singleton_self _)
  · rw [List.mem_singleton.1 h]; exact Nat.le_refl _

theorem inOrder_snoc {p : List (Nat × Nat)} {x t : Nat} (hp : InOrder p)
    (h : ∀ tp, lastTs p = some tp → tp ≤ t) : InOrder (p ++ [(x, t)]) := by
  refine List.pairwise_append.2 ⟨hp, List.pairwise_singleton _ _, fun a ha b hb => ?_⟩
  rw [List.mem_singleton.1 hb]
  cases hl : lastTs p with
  | none => rw [lastTs_eq_none hl] at ha; cases ha
  | some tp => exact Nat.le_trans (le_lastTs hp hl a ha) (h tp hl)

theorem inOrder_split {p r : List (Nat × Nat)} {x t : Nat} (h : InOrder (p ++ (x, t) :: r)) :
    InOrder p ∧ (∀ tp, lastTs p = some tp → tp ≤ t) ∧ InOrder ((p ++ [(x, t)]) ++ r) ∧
    (∀ it ∈ (x, t) :: r, t ≤ it.2) := by
  obtain ⟨h1, h2, h3⟩ := List.pairwise_append.1 h
  refine ⟨h1, fun tp hl => ?_, ?_, fun it hit => ?_⟩
  · obtain ⟨it, hit, rfl⟩ := lastTs_mem hl
    exact h3 it hit (x, t) List.mem_cons_self
  · rw [List.append_assoc]; exact h
  · rcases List.mem_cons.1 hit with rfl | hr
    · exact Nat.le_refl _
    · exact (List.pairwise_cons.1 h2).1 it hr

theorem cSup_spec (s t : Nat) (hs : 1 ≤ s) : s ∣ cSup s t ∧ t ≤ cSup s t ∧ cSup s t < t + s := by
  unfold cSup
  refine ⟨Nat.dvd_mul_left _ _, ?_⟩
  have h1 := Nat.div_add_mod (t + s - 1) s
  have h2 := Nat.mod_lt (t + s - 1) hs
  rw [Nat.mul_comm] at h1
  generalize (t + s - 1) / s * s = m at h1 ⊢
  omega

theorem dvd_gap {s a b : Nat} (ha : s ∣ a) (hb : s ∣ b) (h : a < b) : a + s ≤ b := by
  obtain ⟨k, rfl⟩ := ha
  obtain ⟨m, rfl⟩ := hb
  have : s * (k + 1) ≤ s * m := Nat.mul_le_mul_left s (Nat.lt_of_mul_lt_mul_left h)
  rwa [Nat.mul_succ] at this

theorem dvd_le_of_lt {s a c d : Nat} (hc : s ∣ c) (hd : s ∣ d) (h1 : a < c) (h2 : d ≤ a + s) : d ≤ c :=
  Nat.not_lt.1 fun h => Nat.not_le.2 h1 (Nat.le_of_add_le_add_right (Nat.le_trans (dvd_gap hc hd h) h2))

theorem hasKey_iff {ws : List Win} {o c : Nat} :
    hasKey ws o c = true ↔ ∃ x ∈ ws, x.wopen = o ∧ x.close = c := by
  simp [hasKey]

theorem hasKey_false_iff {ws : List Win} {o c : Nat} :
    hasKey ws o c = false ↔ ∀ x ∈ ws, ¬ (x.wopen = o ∧ x.close = c) := by
  rw [← Bool.not_eq_true, hasKey_iff, not_exists]
  exact forall_congr' fun _ => not_and

theorem mem_ensure {o c : Nat} {ws : List Win} {x : Win} :
    x ∈ ensure o c ws ↔ x ∈ ws ∨ (x = ⟨o, c, []⟩ ∧ hasKey ws o c = false) := by
  unfold ensure
  cases h : hasKey ws o c <;> simp

theorem hasKey_ensure (o c : Nat) (ws : List Win) : hasKey (ensure o c ws) o c = true := by
  rw [hasKey_iff]
  cases h : hasKey ws o c
  · exact ⟨⟨o, c, []⟩, mem_ensure.2 (Or.inr ⟨rfl, h⟩), rfl, rfl⟩
  · obtain ⟨x, hx, hk⟩ := hasKey_iff.1 h
    exact ⟨x, mem_ensure.2 (Or.inl hx), hk⟩

theorem scopeLoop_succ (w s t fuel c : Nat) (ws : List Win) :
    scopeLoop w s t (fuel + 1) c ws =
      if c + s > t + w then ensure (c - w) c ws else scopeLoop w s t fuel (c + s) (ensure (c - w) c ws) := rfl

theorem scopeLoop_sub {w s t : Nat} (fuel c : Nat) {ws : List Win} {x : Win} (hx : x ∈ ws) :
    x ∈ scopeLoop w s t fuel c ws := by
  induction fuel generalizing c ws with
  | zero => exact hx
  | succ f ih =>
    have hx' : x ∈ ensure (c - w) c ws := mem_ensure.2 (Or.inl hx)
    rw [scopeLoop_succ]
    by_cases h : c + s > t + w
    · rw [if_pos h]; exact hx'
    · rw [if_neg h]; exact ih _ hx'

theorem scopeLoop_new {w s t : Nat} (fuel c : Nat) {ws : List Win} {x : Win} (hc : s ∣ c)
    (hx : x ∈ scopeLoop w s t fuel c ws) :
    x ∈ ws ∨ (x.content = [] ∧ x.wopen = x.close - w ∧ s ∣ x.close ∧ c ≤ x.close ∧
      hasKey ws x.wopen x.close = false) := by
  induction fuel generalizing c ws with
  | zero => exact Or.inl hx
  | succ f ih =>
    have key : x ∈ ensure (c - w) c ws → x ∈ ws ∨ (x.content = [] ∧ x.wopen = x.close - w ∧ s ∣ x.close ∧
        c ≤ x.close ∧ hasKey ws x.wopen x.close = false) := by
      intro h
      rcases mem_ensure.1 h with h | ⟨rfl, hk⟩
      · exact Or.inl h
      · exact Or.inr ⟨rfl, rfl, hc, Nat.le_refl _, hk⟩
    rw [scopeLoop_succ] at hx
    by_cases h : c + s > t + w
    · rw [if_pos h] at hx; exact key hx
    · rw [if_neg h] at hx
      rcases ih (c + s) (Nat.dvd_add hc (Nat.dvd_refl s)) hx with h | ⟨h1, h2, h3, h4, h5⟩
      · exact key h
      · refine Or.inr ⟨h1, h2, h3, Nat.le_trans (Nat.le_add_right c s) h4, ?_⟩
        rw [hasKey_false_iff] at h5 ⊢
        exact fun y hy => h5 y (mem_ensure.2 (Or.inl hy))

theorem scopeLoop_complete {w s t : Nat} (fuel c0 : Nat) (ws : List Win) {c : Nat} (hc0 : s ∣ c0) (hc : s ∣ c)
    (h0 : c0 ≤ c) (h1 : c ≤ t + w) (hf : c < c0 + fuel * s) :
    hasKey (scopeLoop w s t fuel c0 ws) (c - w) c = true := by
  induction fuel generalizing c0 ws with
  | zero => omega
  | succ f ih =>
    rcases Nat.eq_or_lt_of_le h0 with rfl | hlt
    · obtain ⟨x, hx, hk⟩ := hasKey_iff.1 (hasKey_ensure (c0 - w) c0 ws)
      rw [hasKey_iff, scopeLoop_succ]
      refine ⟨x, ?_, hk⟩
      by_cases h : c0 + s > t + w
      · rw [if_pos h]; exact hx
      · rw [if_neg h]; exact scopeLoop_sub _ _ hx
    · have hg := dvd_gap hc0 hc hlt
      rw [scopeLoop_succ, if_neg (Nat.not_lt.2 (Nat.le_trans hg h1))]
      apply ih (c0 + s) _ (Nat.dvd_add hc0 (Nat.dvd_refl s)) hg
      rw [Nat.succ_mul] at hf
      omega

theorem scope_sub {w s t : Nat} {ws : List Win} {x : Win} (hx : x ∈ ws) : x ∈ scope w s t ws :=
  scopeLoop_sub _ _ hx

theorem scope_new {w s t : Nat} (hs : 1 ≤ s) {ws : List Win} {x : Win} (hx : x ∈ scope w s t ws) :
    x ∈ ws ∨ (x.content = [] ∧ x.wopen = x.close - w ∧ s ∣ x.close ∧ t ≤ x.close ∧
      hasKey ws x.wopen x.close = false) := by
  obtain ⟨h1, h2, _⟩ := cSup_spec s t hs
  rcases scopeLoop_new _ _ h1 hx with h | ⟨a, b, c, d, e⟩
  · exact Or.inl h
  · exact Or.inr ⟨a, b, c, Nat.le_trans h2 d, e⟩

/-- `scope` opens every aligned window `[c - w, c)` with `t ≤ c ≤ t + w`: with `1 ≤ s` the fuel `w + 1` is enough -/
theorem scope_complete {w s t : Nat} (hs : 1 ≤ s) (ws : List Win) {c : Nat} (hc : s ∣ c) (h0 : t ≤ c)
    (h1 : c ≤ t + w) : ∃ x ∈ scope w s t ws, x.wopen = c - w ∧ x.close = c := by
  obtain ⟨d1, d2, d3⟩ := cSup_spec s t hs
  have hle : cSup s t ≤ c := Nat.not_lt.1 fun h => by have := dvd_gap hc d1 h; omega
  have hfuel : w + 1 ≤ (w + 1) * s := Nat.le_mul_of_pos_right _ hs
  rw [← hasKey_iff]
  exact scopeLoop_complete (w + 1) (cSup s t) ws d1 hc hle h1 (by omega)

theorem pick_spec (l : List Win) :
    match pick l with
    | none => l = []
    | some m => m ∈ l ∧ ∀ y ∈ l, y.close ≤ m.close := by
  induction l with
  | nil => rfl
  | cons a l ih =>
    rw [pick]
    cases hp : pick l with
    | none =>
      rw [hp] at ih
      simp [ih]
    | some m =>
      rw [hp] at ih
      simp only [pickLatest_true, if_true]
      by_cases h : a.close > m.close
      · rw [if_pos h]
        exact ⟨List.mem_cons_self, fun y hy => (List.mem_cons.1 hy).elim (fun e => e ▸ Nat.le_refl _)
          fun hy => Nat.le_trans (ih.2 y hy) (Nat.le_of_lt h)⟩
      · rw [if_neg h]
        exact ⟨List.mem_cons_of_mem _ ih.1, fun y hy => (List.mem_cons.1 hy).elim (fun e => e ▸ Nat.not_lt.1 h)
          (ih.2 y)⟩

theorem report_std {w s : Nat} {y : Win} {t : Nat} :
    report (stdCfg w s).strategies y t = true ↔ y.close ≤ t := by
  simp [report, stdCfg, reportGuard_iff]

theorem mem_assign {x t : Nat} {ws : List Win} {y : Win} :
    y ∈ assign x t ws ↔ ∃ z ∈ ws, z.wopen ≤ t ∧ t < z.close ∧ y = { z with content := insertItem z.content x } := by
  unfold assign
  rw [List.mem_filterMap]
  constructor
  · rintro ⟨z, hz, h⟩
    by_cases hg : memberGuard z.wopen z.close t = true
    · rw [if_pos hg] at h
      exact ⟨z, hz, (memberGuard_iff.1 hg).1, (memberGuard_iff.1 hg).2, (Option.some.inj h).symm⟩
    · rw [if_neg hg] at h; cases h
  · rintro ⟨z, hz, h1, h2, rfl⟩
    exact ⟨z, hz, by rw [if_pos (memberGuard_iff.2 ⟨h1, h2⟩)]⟩

theorem addToWindow_fst (w s : Nat) (st : State) (x t : Nat) :
    (addToWindow (stdCfg w s) st x t).1 =
      ⟨assign x t (scope w s t st.active), if (addToWindow (stdCfg w s) st x t).2.isSome then t else st.appTime⟩ := by
  unfold addToWindow
  dsimp only [stdCfg]
  by_cases hf : fireGuard t st.appTime = true
  · simp only [if_pos hf]; split <;> rfl
  · simp only [if_neg hf]; split <;> rfl

theorem addToWindow_snd (w s : Nat) (st : State) (x t : Nat) :
    (addToWindow (stdCfg w s) st x t).2 =
      if st.appTime < t then
        (pick ((scope w s t st.active).filter fun y => report (stdCfg w s).strategies y t)).map
          fun mw => (mw.close, mw.content)
      else none := by
  unfold addToWindow
  simp only [stdCfg, fireGuard_iff]
  by_cases hf : st.appTime < t
  · simp only [if_pos hf]
    split
    · next h => rw [h]; rfl
    · next h => rw [h]; rfl
  · simp only [if_neg hf]; split <;> rfl

/-- `c` may be reported when an item with timestamp `t` arrives after `p`: `eligible`, as a proposition, within the
range `(prevTime p t, t]` that `reportAt` searches (`candidate_iff`) -/
def Candidate (w s : Nat) (p : List (Nat × Nat)) (t c : Nat) : Prop :=
  s ∣ c ∧ (c = t ∨ ∃ tp, lastTs p = some tp ∧ c - w ≤ tp) ∧ prevTime p t < c ∧ c ≤ t

section reference
variable {w s : Nat} {p : List (Nat × Nat)} {t c : Nat}

theorem prevTime_of_lastTs {tp : Nat} (h : lastTs p = some tp) : prevTime p t = tp := by
  rw [prevTime, h]

theorem prevTime_of_none (h : lastTs p = none) : prevTime p t = t - 1 := by
  rw [prevTime, h]

theorem eligible_iff :
    eligible w s p t c = true ↔ s ∣ c ∧ (c = t ∨ ∃ tp, lastTs p = some tp ∧ c - w ≤ tp) := by
  unfold eligible
  cases lastTs p <;> simp [Nat.dvd_iff_mod_eq_zero]

/-- the search range of `reportAt`, `t - prevTime p t` candidates from `t` downwards, is `(prevTime p t, t]` -/
theorem candidate_iff :
    Candidate w s p t c ↔ eligible w s p t c = true ∧ c ≤ t ∧ t < c + (t - prevTime p t) := by
  rw [eligible_iff, Candidate, and_assoc]
  exact and_congr_right fun _ => and_congr_right fun _ => by omega

/-- when `hi` itself fails `f`, the candidates of `latestDown f (n + 1) hi` are those of the recursive call -/
theorem latestDown_range {f : Nat → Bool} {n hi d : Nat} (hf : ¬ f hi = true) (hd : f d = true) :
    (d ≤ hi - 1 ∧ hi - 1 < d + n) ↔ (d ≤ hi ∧ hi < d + (n + 1)) := by
  have : d ≠ hi := fun e => hf (e ▸ hd)
  omega

theorem latestDown_eq_some {f : Nat → Bool} {n hi c : Nat} :
    latestDown f n hi = some c ↔
      (f c = true ∧ c ≤ hi ∧ hi < c + n) ∧ ∀ d, f d = true ∧ d ≤ hi ∧ hi < d + n → d ≤ c := by
  induction n generalizing hi with
  | zero => exact ⟨fun h => (nomatch h), fun ⟨⟨_, h1, h2⟩, _⟩ => absurd (Nat.lt_of_lt_of_le h2 h1) (Nat.lt_irrefl _)⟩
  | succ n ih =>
    rw [latestDown]
    by_cases hf : f hi = true
    · have hhi : f hi = true ∧ hi ≤ hi ∧ hi < hi + (n + 1) := ⟨hf, Nat.le_refl _, Nat.lt_add_of_pos_right n.succ_pos⟩
      rw [if_pos hf, Option.some.injEq]
      constructor
      · rintro rfl; exact ⟨hhi, fun d h => h.2.1⟩
      · rintro ⟨⟨_, h1, _⟩, h2⟩; exact Nat.le_antisymm (h2 hi hhi) h1
    · rw [if_neg hf, ih]
      exact and_congr (and_congr_right fun hc => latestDown_range hf hc)
        (forall_congr' fun d => imp_congr_left (and_congr_right fun hd => latestDown_range hf hd))

theorem latestDown_eq_none {f : Nat → Bool} {n hi : Nat} :
    latestDown f n hi = none ↔ ∀ d, ¬ (f d = true ∧ d ≤ hi ∧ hi < d + n) := by
  induction n generalizing hi with
  | zero => exact ⟨fun _ d ⟨_, h1, h2⟩ => absurd (Nat.lt_of_lt_of_le h2 h1) (Nat.lt_irrefl _), fun _ => rfl⟩
  | succ n ih =>
    rw [latestDown]
    by_cases hf : f hi = true
    · rw [if_pos hf]
      exact ⟨fun h => (nomatch h), fun h => absurd ⟨hf, Nat.le_refl _, Nat.lt_add_of_pos_right n.succ_pos⟩ (h hi)⟩
    · rw [if_neg hf, ih]
      exact forall_congr' fun d => not_congr (and_congr_right fun hd => latestDown_range hf hd)

theorem reportAt_eq_map :
    reportAt w s p t =
      (latestDown (eligible w s p t) (t - prevTime p t) t).map fun c => (c, contentOf w p c) := by
  unfold reportAt
  cases latestDown (eligible w s p t) (t - prevTime p t) t <;> rfl

theorem reportAt_eq_some {content : List Nat} :
    reportAt w s p t = some (c, content) ↔
      content = contentOf w p c ∧ Candidate w s p t c ∧ ∀ d, Candidate w s p t d → d ≤ c := by
  simp only [reportAt_eq_map, Option.map_eq_some_iff, Prod.mk.injEq, candidate_iff, ← latestDown_eq_some]
  constructor
  · rintro ⟨a, h, rfl, rfl⟩; exact ⟨rfl, h⟩
  · rintro ⟨rfl, h⟩; exact ⟨c, h, rfl, rfl⟩

theorem reportAt_eq_none : reportAt w s p t = none ↔ ∀ d, ¬ Candidate w s p t d := by
  simp only [reportAt_eq_map, Option.map_eq_none_iff, candidate_iff, latestDown_eq_none]

end reference

/-- state invariant after the in-order prefix `p` (window width `w`, slide `s`) -/
structure Inv (w s : Nat) (st : State) (p : List (Nat × Nat)) : Prop where
  /-- every active window is an aligned interval containing the last timestamp, with exactly its items -/
  wf : ∀ y ∈ st.active, s ∣ y.close ∧ y.wopen = y.close - w ∧ y.content = contentOf w p y.close ∧
        ∃ tp, lastTs p = some tp ∧ y.wopen ≤ tp ∧ tp < y.close
  /-- every aligned interval containing the last timestamp is active -/
  complete : ∀ tp, lastTs p = some tp → ∀ c, s ∣ c → c - w ≤ tp → tp < c → ∃ y ∈ st.active, y.close = c
  app_le : ∀ tp, lastTs p = some tp → st.appTime ≤ tp
  app_zero : lastTs p = none → st.appTime = 0
  app_eq : ∀ tp, lastTs p = some tp → s ∣ tp → st.appTime = tp

theorem inv_init (w s : Nat) : Inv w s init [] :=
  ⟨nofun, nofun, nofun, fun _ => rfl, nofun⟩

section step
variable {w s : Nat} {st : State} {p : List (Nat × Nat)} {t : Nat}

/-- the last conjunct: when `t` is aligned and not a new timestamp, the consumer was called at `t` -/
theorem app_prev (hI : Inv w s st p) (ht : ∀ tp, lastTs p = some tp → tp ≤ t) :
    st.appTime ≤ prevTime p t ∧ prevTime p t ≤ t ∧ (s ∣ t → prevTime p t = t → st.appTime = t) := by
  cases hl : lastTs p with
  | none =>
    rw [prevTime_of_none hl, hI.app_zero hl]
    exact ⟨Nat.zero_le _, Nat.sub_le _ _, fun _ e => by omega⟩
  | some tp =>
    rw [prevTime_of_lastTs hl]
    exact ⟨hI.app_le tp hl, ht tp hl, fun hd e => by subst e; exact hI.app_eq _ hl hd⟩

variable (hI : Inv w s st p) (hp : InOrder p) (hs : 1 ≤ s)
include hI hs

theorem mem_scope_of_candidate {c : Nat} (hc : Candidate w s p t c) : ∃ y ∈ scope w s t st.active, y.close = c := by
  obtain ⟨h1, rfl | ⟨tp, hl, h4⟩, h2, h3⟩ := hc
  · obtain ⟨y, hy, _, hyc⟩ := scope_complete hs st.active h1 (Nat.le_refl _) (Nat.le_add_right _ _)
    exact ⟨y, hy, hyc⟩
  · rw [prevTime_of_lastTs hl] at h2
    obtain ⟨y, hy, hyc⟩ := hI.complete tp hl c h1 h4 h2
    exact ⟨y, scope_sub hy, hyc⟩

include hp

/-- the windows present after `scope` (before the item is added): the new ones close at `t` or later; a window has
its content over `p` unless it closes exactly at the last timestamp, where a new, empty one may stand for an
interval that holds items -/
theorem pre_facts (y : Win) (hy : y ∈ scope w s t st.active) :
    s ∣ y.close ∧ y.wopen = y.close - w ∧
    (prevTime p t < y.close → y.content = contentOf w p y.close) ∧
    (y ∈ st.active ∨ t ≤ y.close) := by
  rcases scope_new hs hy with h | ⟨h1, h2, h3, h4, h5⟩
  · obtain ⟨a, b, c, _⟩ := hI.wf y h
    exact ⟨a, b, fun _ => c, Or.inl h⟩
  · refine ⟨h3, h2, fun hlt => ?_, Or.inr h4⟩
    rw [h1]
    refine (contentOf_eq_nil w p y.close fun it hit hin => ?_).symm
    -- an item in the interval would make it contain the last timestamp, so it would be active already
    cases hl : lastTs p with
    | none => rw [lastTs_eq_none hl] at hit; cases hit
    | some tp =>
      rw [prevTime_of_lastTs hl] at hlt
      have hle := le_lastTs hp hl it hit
      obtain ⟨z, hz, hzc⟩ := hI.complete tp hl y.close h3 (Nat.le_trans hin.1 hle) hlt
      obtain ⟨_, hzo, _⟩ := hI.wf z hz
      exact hasKey_false_iff.1 h5 z hz ⟨by rw [hzo, hzc, h2], hzc⟩

variable (ht : ∀ tp, lastTs p = some tp → tp ≤ t)
include ht

theorem candidate_of_mem_scope (hf : st.appTime < t) {y : Win} (hy : y ∈ scope w s t st.active)
    (hyt : y.close ≤ t) : Candidate w s p t y.close ∧ y.content = contentOf w p y.close := by
  obtain ⟨h1, h2, h3, h4⟩ := pre_facts hI hp hs y hy
  have hc : Candidate w s p t y.close := by
    rcases h4 with h4 | h4
    · obtain ⟨_, _, _, tp, hl, h5, h6⟩ := hI.wf y h4
      exact ⟨h1, Or.inr ⟨tp, hl, h2 ▸ h5⟩, by rw [prevTime_of_lastTs hl]; exact h6, hyt⟩
    · -- a new window: it closes at `t`, and `t` is a new timestamp, or the application time would be `t` already
      obtain rfl : y.close = t := Nat.le_antisymm hyt h4
      obtain ⟨_, hle, heq⟩ := app_prev hI ht
      exact ⟨h1, Or.inl rfl, Nat.lt_of_le_of_ne hle fun e => Nat.ne_of_lt hf (heq h1 e), hyt⟩
  exact ⟨hc, h3 hc.2.2.1⟩

theorem step_eq_spec (x : Nat) : (addToWindow (stdCfg w s) st x t).2 = reportAt w s p t := by
  rw [addToWindow_snd]
  by_cases hf : st.appTime < t
  · rw [if_pos hf]
    generalize hl : (scope w s t st.active).filter (fun y => report (stdCfg w s).strategies y t) = l
    have hmem : ∀ y, y ∈ l ↔ y ∈ scope w s t st.active ∧ y.close ≤ t := fun y => by
      rw [← hl, List.mem_filter, report_std]
    have hpk := pick_spec l
    revert hpk
    cases pick l with
    | none =>
      intro hpk
      refine (reportAt_eq_none.2 fun d hd => ?_).symm
      obtain ⟨y, hy, rfl⟩ := mem_scope_of_candidate hI hs hd
      have := (hmem y).2 ⟨hy, hd.2.2.2⟩
      rw [hpk] at this; cases this
    | some mw =>
      intro hpk
      obtain ⟨hc, hcont⟩ := candidate_of_mem_scope hI hp hs ht hf ((hmem mw).1 hpk.1).1 ((hmem mw).1 hpk.1).2
      refine (reportAt_eq_some.2 ⟨hcont, hc, fun d hd => ?_⟩).symm
      obtain ⟨y, hy, rfl⟩ := mem_scope_of_candidate hI hs hd
      exact hpk.2 y ((hmem y).2 ⟨hy, hd.2.2.2⟩)
  · -- `t` is not a new timestamp: there are no candidates
    rw [if_neg hf]
    exact (reportAt_eq_none.2 fun d hd =>
      hf (Nat.lt_of_le_of_lt (app_prev hI ht).1 (Nat.lt_of_lt_of_le hd.2.2.1 hd.2.2.2))).symm

theorem step_inv (x : Nat) : Inv w s (addToWindow (stdCfg w s) st x t).1 (p ++ [(x, t)]) := by
  rw [addToWindow_fst, step_eq_spec hI hp hs ht x]
  obtain ⟨hle, hpt, heq⟩ := app_prev hI ht
  have hl := lastTs_snoc p x t
  have last : ∀ {tp}, lastTs (p ++ [(x, t)]) = some tp → t = tp := fun h => Option.some.inj (hl.symm.trans h)
  refine ⟨fun y hy => ?_, fun tp h c hc h1 h2 => ?_, fun tp h => ?_, fun h => (nomatch hl.symm.trans h),
    fun tp h hd => ?_⟩
  · -- a window that stays held the prefix items of its interval; `x` is added to them
    obtain ⟨z, hz, h1, h2, rfl⟩ := mem_assign.1 hy
    obtain ⟨a, b, c, _⟩ := pre_facts hI hp hs z hz
    refine ⟨a, b, ?_, t, hl, h1, h2⟩
    rw [contentOf_snoc, if_pos (inInterval_iff.2 ⟨b ▸ h1, h2⟩),
      c (Nat.lt_of_le_of_lt hpt h2)]
  · cases last h
    obtain ⟨z, hz, hzo, rfl⟩ :=
      scope_complete hs st.active hc (Nat.le_of_lt h2) (Nat.sub_le_iff_le_add.1 h1)
    exact ⟨{ z with content := insertItem z.content x }, mem_assign.2 ⟨z, hz, hzo ▸ h1, h2, rfl⟩, rfl⟩
  · cases last h
    show (if (reportAt w s p t).isSome then t else st.appTime) ≤ t
    cases (reportAt w s p t).isSome
    · exact Nat.le_trans hle hpt
    · exact Nat.le_refl _
  · -- at an aligned new timestamp `t` itself is a candidate, so the consumer was called
    cases last h
    dsimp only
    cases hr : reportAt w s p t with
    | some r => rfl
    | none =>
      have hprev : ¬ prevTime p t < t := fun h => reportAt_eq_none.1 hr t ⟨hd, Or.inl rfl, h, Nat.le_refl _⟩
      exact heq hd (Nat.le_antisymm hpt (Nat.not_lt.1 hprev))

end step

theorem runFrom_cons (cfg : Cfg) (st : State) (i x t : Nat) (r : List (Nat × Nat)) (f : Firing) :
    f ∈ runFrom cfg st i ((x, t) :: r) ↔
      (∃ c content, (addToWindow cfg st x t).2 = some (c, content) ∧ f = ⟨i, t, c, content⟩) ∨
      f ∈ runFrom cfg (addToWindow cfg st x t).1 (i + 1) r := by
  rw [runFrom]
  generalize addToWindow cfg st x t = res
  obtain ⟨st', _ | ⟨c, content⟩⟩ := res
  · simp
  · show f ∈ _ :: _ ↔ _
    rw [List.mem_cons]
    exact ⟨fun h => h.imp (fun e => ⟨c, content, rfl, e⟩) id,
      fun h => h.imp (fun ⟨_, _, h, e⟩ => by cases h; exact e) id⟩

section runs
variable {w s : Nat}

theorem stateAfter_inv (hs : 1 ≤ s) : ∀ (rest p : List (Nat × Nat)) (st : State),
    Inv w s st p → InOrder (p ++ rest) → Inv w s (stateAfter (stdCfg w s) st rest) (p ++ rest) := by
  intro rest
  induction rest with
  | nil => exact fun p _ hI _ => (List.append_nil p).symm ▸ hI
  | cons a r ih =>
    intro p st hI ho
    obtain ⟨h1, h2, h3, _⟩ := inOrder_split ho
    have := ih (p ++ [a]) _ (step_inv hI h1 hs h2 a.1) h3
    rwa [List.append_assoc] at this

theorem runFrom_eq_spec (hs : 1 ≤ s) : ∀ (rest p : List (Nat × Nat)) (st : State),
    Inv w s st p → InOrder (p ++ rest) → runFrom (stdCfg w s) st p.length rest = reportsFrom w s p rest := by
  intro rest
  induction rest with
  | nil => exact fun _ _ _ _ => rfl
  | cons a r ih =>
    intro p st hI ho
    obtain ⟨x, t⟩ := a
    obtain ⟨h1, h2, h3, _⟩ := inOrder_split ho
    have ih := ih (p ++ [(x, t)]) _ (step_inv hI h1 hs h2 x) h3
    rw [List.length_append, List.length_singleton] at ih
    rw [runFrom, reportsFrom, ← step_eq_spec hI h1 hs h2 x]
    generalize addToWindow (stdCfg w s) st x t = res at ih ⊢
    obtain ⟨st', _ | ⟨c, content⟩⟩ := res
    · exact ih
    · exact congrArg _ ih

theorem run_eq_reports {stream : List (Nat × Nat)} (hs : 1 ≤ s) (ho : InOrder stream) :
    run (stdCfg w s) stream = reports w s stream :=
  runFrom_eq_spec hs stream [] init (inv_init w s) ho

theorem mem_reportsFrom_cons {p : List (Nat × Nat)} {x t : Nat} {r : List (Nat × Nat)} {f : Firing} :
    f ∈ reportsFrom w s p ((x, t) :: r) ↔
      (∃ c content, reportAt w s p t = some (c, content) ∧ f = ⟨p.length, t, c, content⟩) ∨
      f ∈ reportsFrom w s (p ++ [(x, t)]) r := by
  rw [reportsFrom]
  cases reportAt w s p t with
  | none => simp
  | some cc =>
    obtain ⟨c, content⟩ := cc
    show f ∈ _ :: _ ↔ _
    rw [List.mem_cons]
    exact ⟨fun h => h.imp (fun e => ⟨c, content, rfl, e⟩) id,
      fun h => h.imp (fun ⟨_, _, h, e⟩ => by cases h; exact e) id⟩

/-- the last conjunct, that reports close after the last timestamp of `p`, is what `reportsFrom_pairwise` uses -/
theorem reportsFrom_facts : ∀ (rest p : List (Nat × Nat)), InOrder (p ++ rest) →
    ∀ f ∈ reportsFrom w s p rest,
      (∃ x, (p ++ rest)[f.idx]? = some (x, f.trigger)) ∧ s ∣ f.close ∧
      f.close ≤ f.trigger ∧ 0 < f.close ∧ f.content = contentOf w ((p ++ rest).take f.idx) f.close ∧
      (∀ tp, lastTs p = some tp → tp < f.close) := by
  intro rest
  induction rest with
  | nil => exact fun _ _ _ hf => nomatch hf
  | cons a r ih =>
    intro p ho f hf
    obtain ⟨x, t⟩ := a
    obtain ⟨_, h2, h3, _⟩ := inOrder_split ho
    rcases mem_reportsFrom_cons.1 hf with ⟨c, content, hc, rfl⟩ | hf'
    · obtain ⟨rfl, ⟨a1, _, a2, a3⟩, _⟩ := reportAt_eq_some.1 hc
      refine ⟨⟨x, by simp⟩, a1, a3, Nat.zero_lt_of_lt a2, by simp, fun tp hl => ?_⟩
      rwa [prevTime_of_lastTs hl] at a2
    · obtain ⟨b2, b3, b4, b5, b6, b7⟩ := ih (p ++ [(x, t)]) h3 f hf'
      rw [List.append_assoc] at b2 b6
      exact ⟨b2, b3, b4, b5, b6, fun tp hl => Nat.lt_of_le_of_lt (h2 tp hl) (b7 t (lastTs_snoc p x t))⟩

theorem reportsFrom_pairwise : ∀ (rest p : List (Nat × Nat)), InOrder (p ++ rest) →
    (reportsFrom w s p rest).Pairwise (fun a b => a.trigger < b.trigger ∧ a.close < b.close) := by
  intro rest
  induction rest with
  | nil => exact fun _ _ => List.Pairwise.nil
  | cons a r ih =>
    intro p ho
    obtain ⟨x, t⟩ := a
    obtain ⟨_, _, h3, _⟩ := inOrder_split ho
    have ih := ih (p ++ [(x, t)]) h3
    rw [reportsFrom]
    cases hr : reportAt w s p t with
    | none => exact ih
    | some cc =>
      -- later reports close after `t`, this one closes at `t` at the latest
      obtain ⟨c, content⟩ := cc
      refine List.pairwise_cons.2 ⟨fun f hf => ?_, ih⟩
      obtain ⟨_, _, b4, _, _, b7⟩ := reportsFrom_facts r (p ++ [(x, t)]) h3 f hf
      have hf := b7 t (lastTs_snoc p x t)
      exact ⟨Nat.lt_of_lt_of_le hf b4, Nat.lt_of_le_of_lt (reportAt_eq_some.1 hr).2.1.2.2.2 hf⟩

theorem gapsAtMost_cons_cons {g : Nat} {a b : Nat × Nat} {l : List (Nat × Nat)} :
    gapsAtMost g (a :: b :: l) = true ↔ (a.2 ≤ b.2 ∧ b.2 ≤ a.2 + g) ∧ gapsAtMost g (b :: l) = true := by
  simp only [gapsAtMost, Bool.and_eq_true, decide_eq_true_eq]

theorem gaps_inOrder (g : Nat) (l : List (Nat × Nat)) (h : gapsAtMost g l = true) : InOrder l := by
  induction l with
  | nil => exact List.Pairwise.nil
  | cons a l ih =>
    cases l with
    | nil => exact List.pairwise_singleton _ _
    | cons b l =>
      have h := gapsAtMost_cons_cons.1 h
      have hb := ih h.2
      refine List.pairwise_cons.2 ⟨fun y hy => ?_, hb⟩
      rcases List.mem_cons.1 hy with rfl | hy'
      · exact h.1.1
      · exact Nat.le_trans h.1.1 ((List.pairwise_cons.1 hb).1 y hy')

theorem gapsAtMost_tail {g : Nat} {a : Nat × Nat} {l : List (Nat × Nat)} (h : gapsAtMost g (a :: l) = true) :
    gapsAtMost g l = true := by
  cases l with
  | nil => rfl
  | cons b l => exact (gapsAtMost_cons_cons.1 h).2

theorem gaps_step {g : Nat} (q : List (Nat × Nat)) {a b : Nat × Nat} {r : List (Nat × Nat)}
    (h : gapsAtMost g (q ++ a :: b :: r) = true) : b.2 ≤ a.2 + g := by
  induction q with
  | nil => exact (gapsAtMost_cons_cons.1 h).1.2
  | cons e q ih => exact ih (gapsAtMost_tail h)

theorem straddle {stream : List (Nat × Nat)} {c : Nat} (hfirst : ∃ a, stream.head? = some a ∧ a.2 < c)
    (hlast : ∃ T, lastTs stream = some T ∧ c ≤ T) :
    ∃ q a b r, stream = q ++ a :: b :: r ∧ a.2 < c ∧ c ≤ b.2 := by
  obtain ⟨a, ha, hac⟩ := hfirst
  obtain ⟨T, hT, hcT⟩ := hlast
  cases stream with
  | nil => cases ha
  | cons a' l =>
    obtain rfl : a' = a := Option.some.inj ha
    clear ha
    induction l generalizing a' with
    | nil =>
      obtain rfl : a'.2 = T := Option.some.inj hT
      exact absurd hac (Nat.not_lt.2 hcT)
    | cons b l ih =>
      rcases Nat.lt_or_ge b.2 c with hb | hb
      · rw [lastTs, List.getLast?_cons_cons] at hT
        obtain ⟨q, a, b', r, e, h⟩ := ih b hT hb
        exact ⟨a' :: q, a, b', r, congrArg (a' :: ·) e, h⟩
      · exact ⟨[], a', b, l, rfl, hac, hb⟩

theorem reportsFrom_append (q p r : List (Nat × Nat)) :
    reportsFrom w s q (p ++ r) = reportsFrom w s q p ++ reportsFrom w s (q ++ p) r := by
  induction p generalizing q with
  | nil => rw [List.append_nil]; rfl
  | cons a p ih =>
    obtain ⟨x, t⟩ := a
    rw [List.cons_append, reportsFrom, reportsFrom, ih, List.append_assoc, List.singleton_append]
    cases reportAt w s q t with
    | none => rfl
    | some cc => obtain ⟨c, content⟩ := cc; rfl

/-- sliding and tumbling windows (`s ≤ w`) leave no holes: the interval of every close in `(first, last]` holds an item -/
theorem gap_nonempty {stream : List (Nat × Nat)} (hws : s ≤ w) (hg : gapsAtMost s stream = true)
    {c : Nat} (hfirst : ∃ a, stream.head? = some a ∧ a.2 < c) (hlast : ∃ T, lastTs stream = some T ∧ c ≤ T) :
    ∃ it ∈ stream, c - w ≤ it.2 ∧ it.2 < c := by
  obtain ⟨q, a, b, r, rfl, ha, hb⟩ := straddle hfirst hlast
  have hab : b.2 ≤ a.2 + w := Nat.le_trans (gaps_step q hg) (Nat.add_le_add_left hws _)
  exact ⟨a, List.mem_append_right _ List.mem_cons_self, Nat.sub_le_iff_le_add.2 (Nat.le_trans hb hab), ha⟩

/-- with gaps of at most one slide, every aligned interval that closes within the stream and holds an item is
reported when the first timestamp at or after its close arrives -/
theorem reports_complete {stream : List (Nat × Nat)} (hg : gapsAtMost s stream = true)
    {c : Nat} (hc : s ∣ c) (hfirst : ∃ a, stream.head? = some a ∧ a.2 < c)
    (hlast : ∃ T, lastTs stream = some T ∧ c ≤ T) (hne : ∃ it ∈ stream, c - w ≤ it.2 ∧ it.2 < c) :
    ∃ f ∈ reports w s stream, f.close = c := by
  obtain ⟨q, ⟨y, tp⟩, ⟨x, t⟩, r, rfl, htp, hct⟩ := straddle hfirst hlast
  have hgap : t ≤ tp + s := gaps_step q hg
  have hl := lastTs_snoc q y tp
  rw [List.append_cons] at hg hne ⊢
  generalize q ++ [(y, tp)] = p at hg hne hl ⊢
  obtain ⟨h1, _, _, h4⟩ := inOrder_split (gaps_inOrder s _ hg)
  -- `(x, t)` arrives after `p`, whose last timestamp is `tp`: `c` is the only multiple of the slide in `(tp, t]`
  have hlive : c = t ∨ ∃ tp, lastTs p = some tp ∧ c - w ≤ tp := by
    obtain ⟨it, hit, hi1, hi2⟩ := hne
    rcases List.mem_append.1 hit with hp | hr
    · exact Or.inr ⟨tp, hl, Nat.le_trans hi1 (le_lastTs h1 hl it hp)⟩
    · exact absurd (Nat.lt_of_le_of_lt (Nat.le_trans hct (h4 it hr)) hi2) (Nat.lt_irrefl _)
  have hrep : reportAt w s p t = some (c, contentOf w p c) :=
    reportAt_eq_some.2 ⟨rfl, ⟨hc, hlive, prevTime_of_lastTs (t := t) hl ▸ htp, hct⟩, fun d hd =>
      dvd_le_of_lt hc hd.1 htp (Nat.le_trans hd.2.2.2 hgap)⟩
  refine ⟨⟨p.length, t, c, contentOf w p c⟩, ?_, rfl⟩
  rw [reports, reportsFrom_append, List.nil_append]
  exact List.mem_append_right _ (mem_reportsFrom_cons.2 (Or.inl ⟨_, _, hrep, rfl⟩))

end runs

end Kolibrie.Window
