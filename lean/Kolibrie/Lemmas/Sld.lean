import Kolibrie.Model.Sld
import Kolibrie.Spec.Sld
/-! Substitutions and unification (C18): what a ground valuation that solves a set of bindings sees (`Sat`), and
    which variable names can occur in bindings and patterns (`Known`). -/
namespace Kolibrie.Sld
open Kolibrie.Terms Kolibrie.SldSpec

/-- a ground valuation satisfies a set of bindings -/
def Sat (σ : String → Nat) (b : Subst) : Prop := ∀ v t, (v, t) ∈ b → σ v = t.eval σ

theorem sat_nil (σ : String → Nat) : Sat σ [] := fun _ _ h => nomatch h

theorem sat_cons {σ v t b} : Sat σ ((v, t) :: b) ↔ σ v = t.eval σ ∧ Sat σ b := by
  constructor
  · intro h; exact ⟨h v t List.mem_cons_self, fun w u hw => h w u (List.mem_cons_of_mem _ hw)⟩
  · rintro ⟨h1, h2⟩ w u hw
    rcases List.mem_cons.1 hw with h | h
    · cases h; exact h1
    · exact h2 w u h

theorem lookupT_mem {v t} {b : Subst} (h : lookupT v b = some t) : (v, t) ∈ b := by
  induction b with
  | nil => cases h
  | cons e b ih =>
    unfold lookupT at h
    by_cases hv : v = e.1
    · rw [if_pos hv] at h; cases h; cases hv; exact List.mem_cons_self
    · rw [if_neg hv] at h; exact List.mem_cons_of_mem _ (ih h)

theorem resolve_induct {b : Subst} {Q : Term → Prop} (step : ∀ v u, (v, u) ∈ b → Q (.var v) → Q u) (n : Nat) :
    ∀ t : Term, Q t → Q (resolve n b t) := by
  induction n with
  | zero => exact fun _ h => h
  | succ n ih =>
    intro t h
    cases t with
    | const _ => exact h
    | var v =>
      unfold resolve
      cases hl : lookupT v b with
      | none => exact h
      | some u => exact ih u (step v u (lookupT_mem hl) h)

theorem resolveT_eval {σ b} (hs : Sat σ b) (t : Term) : (resolveT b t).eval σ = t.eval σ :=
  resolve_induct (Q := fun u => u.eval σ = t.eval σ) (fun v u hm hq => (hs v u hm).symm.trans hq) _ t rfl

theorem substitute_inst {σ b} (hs : Sat σ b) (q : Pattern) : (substitute b q).inst σ = q.inst σ := by
  simp only [substitute, Pattern.inst, resolveT_eval hs]

/-! ### the naming discipline -/

/-- names the computation may already contain when the counter is `c`: the goal's variables and earlier generated names -/
def Known (reserved : List String) (c : Nat) (x : String) : Prop :=
  x ∈ reserved ∨ ∃ k, k < c ∧ x = genName k

section
variable (reserved : List String)

def TermKnown (c : Nat) (t : Term) : Prop := ∀ v, t = .var v → Known reserved c v
def PatKnown (c : Nat) (q : Pattern) : Prop := TermKnown reserved c q.s ∧ TermKnown reserved c q.p ∧ TermKnown reserved c q.o
def SubstKnown (c : Nat) (b : Subst) : Prop := ∀ v t, (v, t) ∈ b → Known reserved c v ∧ TermKnown reserved c t
def AgreeOn (c : Nat) (σ σ' : String → Nat) : Prop := ∀ x, Known reserved c x → σ' x = σ x

variable {reserved}

theorem Known.mono {c c' x} (h : c ≤ c') : Known reserved c x → Known reserved c' x
  | .inl h1 => .inl h1
  | .inr ⟨k, hk, e⟩ => .inr ⟨k, Nat.lt_of_lt_of_le hk h, e⟩

theorem TermKnown.mono {c c' t} (h : c ≤ c') (hk : TermKnown reserved c t) : TermKnown reserved c' t :=
  fun v hv => (hk v hv).mono h
theorem PatKnown.mono {c c' q} (h : c ≤ c') (hk : PatKnown reserved c q) : PatKnown reserved c' q :=
  ⟨hk.1.mono h, hk.2.1.mono h, hk.2.2.mono h⟩
theorem SubstKnown.mono {c c' b} (h : c ≤ c') (hk : SubstKnown reserved c b) : SubstKnown reserved c' b :=
  fun v t hm => ⟨(hk v t hm).1.mono h, (hk v t hm).2.mono h⟩

theorem AgreeOn.refl (c σ) : AgreeOn reserved c σ σ := fun _ _ => rfl
theorem AgreeOn.weaken {c c' σ σ'} (h : c ≤ c') (ha : AgreeOn reserved c' σ σ') : AgreeOn reserved c σ σ' :=
  fun x hx => ha x (hx.mono h)
theorem AgreeOn.trans {c c' σ σ1 σ2} (h : c ≤ c') (h1 : AgreeOn reserved c σ σ1) (h2 : AgreeOn reserved c' σ1 σ2) :
    AgreeOn reserved c σ σ2 := fun x hx => (h2 x (hx.mono h)).trans (h1 x hx)

theorem termKnown_const (c k) : TermKnown reserved c (.const k) := fun _ h => nomatch h

theorem patKnown_fact (c : Nat) (f : Fact) : PatKnown reserved c f.toPattern :=
  ⟨termKnown_const _ _, termKnown_const _ _, termKnown_const _ _⟩

theorem patKnown_vars (q : Pattern) (c : Nat) : PatKnown q.vars c q := by
  have key : ∀ {t : Term}, t.vars ⊆ q.vars → TermKnown q.vars c t :=
    fun h v hv => .inl (h (hv ▸ List.mem_singleton_self v))
  exact ⟨key fun _ h => List.mem_append_left _ (List.mem_append_left _ h),
    key fun _ h => List.mem_append_left _ (List.mem_append_right _ h), key fun _ h => List.mem_append_right _ h⟩

theorem substKnown_nil (c) : SubstKnown reserved c [] := fun _ _ h => nomatch h

theorem substKnown_cons {c v t b} (hv : Known reserved c v) (ht : TermKnown reserved c t) (hb : SubstKnown reserved c b) :
    SubstKnown reserved c ((v, t) :: b) := by
  intro w u hm
  rcases List.mem_cons.1 hm with h | h
  · cases h; exact ⟨hv, ht⟩
  · exact hb w u h

theorem eval_agree {c σ σ' t} (ha : AgreeOn reserved c σ σ') (hk : TermKnown reserved c t) : t.eval σ' = t.eval σ := by
  cases t with
  | const k => rfl
  | var v => exact ha v (hk v rfl)

theorem inst_agree {c σ σ' q} (ha : AgreeOn reserved c σ σ') (hk : PatKnown reserved c q) : q.inst σ' = q.inst σ := by
  simp only [Pattern.inst, eval_agree ha hk.1, eval_agree ha hk.2.1, eval_agree ha hk.2.2]

theorem sat_agree {c σ σ' b} (ha : AgreeOn reserved c σ σ') (hk : SubstKnown reserved c b) (hs : Sat σ b) : Sat σ' b := by
  intro v t hm
  rw [ha v (hk v t hm).1, eval_agree ha (hk v t hm).2]
  exact hs v t hm

theorem resolveT_known {c b t} (hb : SubstKnown reserved c b) (ht : TermKnown reserved c t) :
    TermKnown reserved c (resolveT b t) :=
  resolve_induct (fun v u hm _ => (hb v u hm).2) _ t ht

theorem substitute_known {c b q} (hb : SubstKnown reserved c b) (hq : PatKnown reserved c q) :
    PatKnown reserved c (substitute b q) :=
  ⟨resolveT_known hb hq.1, resolveT_known hb hq.2.1, resolveT_known hb hq.2.2⟩

end

/-- The outcomes of `unify_terms`, read off the two resolved terms: it fails on two different constants, changes
    nothing when they are equal, and otherwise binds a variable that is one of them to the other. -/
theorem unifyTerms_cases (t1 t2 : Term) (b : Subst) :
    match unifyTerms t1 t2 b with
    | none => ∃ c1 c2, resolveT b t1 = .const c1 ∧ resolveT b t2 = .const c2 ∧ c1 ≠ c2
    | some b' => b' = b ∧ resolveT b t1 = resolveT b t2 ∨
        ∃ v u, b' = (v, u) :: b ∧
          (resolveT b t1 = .var v ∧ resolveT b t2 = u ∨ resolveT b t1 = u ∧ resolveT b t2 = .var v) := by
  unfold unifyTerms
  generalize resolveT b t1 = r1
  generalize resolveT b t2 = r2
  cases r1 with
  | const c1 =>
    cases r2 with
    | const c2 =>
      dsimp only
      by_cases h : c1 = c2
      · rw [if_pos h]; exact .inl ⟨rfl, by rw [h]⟩
      · rw [if_neg h]; exact ⟨c1, c2, rfl, rfl, h⟩
    | var v => exact .inr ⟨v, .const c1, rfl, .inr ⟨rfl, rfl⟩⟩
  | var v1 =>
    cases r2 with
    | const c2 => exact .inr ⟨v1, .const c2, rfl, .inl ⟨rfl, rfl⟩⟩
    | var v2 =>
      dsimp only
      by_cases h : v1 = v2
      · rw [if_neg (not_not_intro h)]; exact .inl ⟨rfl, by rw [h]⟩
      · rw [if_pos h]; exact .inr ⟨v1, .var v2, rfl, .inl ⟨rfl, rfl⟩⟩

theorem sat_unifyTerms {σ t1 t2 b b'} (h : unifyTerms t1 t2 b = some b') :
    Sat σ b' ↔ Sat σ b ∧ t1.eval σ = t2.eval σ := by
  have key : Sat σ b → (t1.eval σ = t2.eval σ ↔ (resolveT b t1).eval σ = (resolveT b t2).eval σ) :=
    fun hs => by rw [resolveT_eval hs, resolveT_eval hs]
  have hc := unifyTerms_cases t1 t2 b
  rw [h] at hc
  rcases hc with ⟨rfl, e⟩ | ⟨v, u, rfl, e⟩
  · exact ⟨fun hs => ⟨hs, (key hs).2 (by rw [e])⟩, And.left⟩
  · have hvu : (resolveT b t1).eval σ = (resolveT b t2).eval σ ↔ σ v = u.eval σ := by
      rcases e with ⟨e1, e2⟩ | ⟨e1, e2⟩ <;> rw [e1, e2]
      · exact Iff.rfl
      · exact eq_comm
    rw [sat_cons, ← hvu]
    exact ⟨fun ⟨he, hs⟩ => ⟨hs, (key hs).2 he⟩, fun ⟨hs, he⟩ => ⟨(key hs).1 he, hs⟩⟩

theorem unifyTerms_complete {σ t1 t2 b} (hs : Sat σ b) (he : t1.eval σ = t2.eval σ) :
    ∃ b', unifyTerms t1 t2 b = some b' ∧ Sat σ b' := by
  cases h : unifyTerms t1 t2 b with
  | some b' => exact ⟨b', rfl, (sat_unifyTerms h).2 ⟨hs, he⟩⟩
  | none =>
    have hc := unifyTerms_cases t1 t2 b
    rw [h] at hc
    obtain ⟨c1, c2, e1, e2, hne⟩ := hc
    rw [← resolveT_eval hs t1, ← resolveT_eval hs t2, e1, e2] at he
    exact absurd he hne

theorem unifyTerms_known {reserved c t1 t2 b b'} (hb : SubstKnown reserved c b) (h1 : TermKnown reserved c t1)
    (h2 : TermKnown reserved c t2) (h : unifyTerms t1 t2 b = some b') : SubstKnown reserved c b' := by
  have r1 := resolveT_known hb h1
  have r2 := resolveT_known hb h2
  have hc := unifyTerms_cases t1 t2 b
  rw [h] at hc
  rcases hc with ⟨rfl, _⟩ | ⟨v, u, rfl, ⟨e1, e2⟩ | ⟨e1, e2⟩⟩
  · exact hb
  · rw [e1] at r1; rw [e2] at r2; exact substKnown_cons (r1 v rfl) r2 hb
  · rw [e1] at r1; rw [e2] at r2; exact substKnown_cons (r2 v rfl) r1 hb

theorem unifyPatterns_eq_some {p1 p2 b b'} : unifyPatterns p1 p2 b = some b' ↔
    ∃ b1 b2, unifyTerms p1.s p2.s b = some b1 ∧ unifyTerms p1.p p2.p b1 = some b2 ∧
      unifyTerms p1.o p2.o b2 = some b' := by
  unfold unifyPatterns
  constructor
  · intro h
    cases h1 : unifyTerms p1.s p2.s b with
    | none => rw [h1] at h; cases h
    | some b1 =>
      cases h2 : unifyTerms p1.p p2.p b1 with
      | none => simp only [h1, h2] at h; cases h
      | some b2 => exact ⟨b1, b2, rfl, h2, by simpa only [h1, h2] using h⟩
  · rintro ⟨b1, b2, h1, h2, h3⟩
    simp only [h1, h2, h3]

theorem sat_unifyPatterns {σ p1 p2 b b'} (h : unifyPatterns p1 p2 b = some b') :
    Sat σ b' ↔ Sat σ b ∧ p1.inst σ = p2.inst σ := by
  obtain ⟨b1, b2, h1, h2, h3⟩ := unifyPatterns_eq_some.1 h
  rw [sat_unifyTerms h3, sat_unifyTerms h2, sat_unifyTerms h1]
  simp only [Pattern.inst, Fact.mk.injEq, and_assoc]

theorem unifyPatterns_complete {σ p1 p2 b} (hs : Sat σ b) (he : p1.inst σ = p2.inst σ) :
    ∃ b', unifyPatterns p1 p2 b = some b' ∧ Sat σ b' := by
  simp only [Pattern.inst, Fact.mk.injEq] at he
  obtain ⟨b1, u1, s1⟩ := unifyTerms_complete hs he.1
  obtain ⟨b2, u2, s2⟩ := unifyTerms_complete s1 he.2.1
  obtain ⟨b3, u3, s3⟩ := unifyTerms_complete s2 he.2.2
  exact ⟨b3, unifyPatterns_eq_some.2 ⟨b1, b2, u1, u2, u3⟩, s3⟩

theorem unifyPatterns_known {reserved c p1 p2 b b'} (hb : SubstKnown reserved c b) (h1 : PatKnown reserved c p1)
    (h2 : PatKnown reserved c p2) (h : unifyPatterns p1 p2 b = some b') : SubstKnown reserved c b' := by
  obtain ⟨b1, b2, e1, e2, e3⟩ := unifyPatterns_eq_some.1 h
  exact unifyTerms_known (unifyTerms_known (unifyTerms_known hb h1.1 h2.1 e1) h1.2.1 h2.2.1 e2) h1.2.2 h2.2.2 e3

end Kolibrie.Sld
