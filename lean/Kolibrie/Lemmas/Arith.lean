import Kolibrie.Model.Arith
/-! Lemmas for the FILTER arithmetic theorems of Props/C16: fuel monotonicity of the five parser functions and the
    round trip `parse (print e) = e` by an induction that carries the loop accumulators. -/
namespace Kolibrie.Arith

/-- `- x1 - … - xn`: what follows the first operand of a subtraction chain -/
def chainToks (xs : List String) : List Tok := xs.flatMap (fun x => [Tok.op '-', Tok.atom x])

theorem productLoop_stop_nil (f : Nat) (e : AExpr) : productLoop (f + 1) e [] = some (e, []) := by
  simp [productLoop]

theorem productLoop_stop_minus (f : Nat) (e : AExpr) (rest : List Tok) :
    productLoop (f + 1) e (Tok.op '-' :: rest) = some (e, Tok.op '-' :: rest) := by
  simp [productLoop]

theorem printTop_chain (acc : AExpr) (xs : List String) :
    printTop false (xs.foldl (fun a x => .sub a (.opnd x)) acc) = printTop false acc ++ chainToks xs := by
  induction xs generalizing acc with
  | nil => simp [chainToks]
  | cons x xs ih => rw [List.foldl_cons, ih]; simp [printTop, wrap, AExpr.level, chainToks]

theorem fuel_mono : ∀ f g : Nat, f ≤ g →
    (∀ ts r, parseOperand f ts = some r → parseOperand g ts = some r) ∧
    (∀ acc ts r, productLoop f acc ts = some r → productLoop g acc ts = some r) ∧
    (∀ ts r, parseProduct f ts = some r → parseProduct g ts = some r) ∧
    (∀ acc ts r, sumLoop f acc ts = some r → sumLoop g acc ts = some r) ∧
    (∀ ts r, parseSum f ts = some r → parseSum g ts = some r) := by
  intro f
  induction f with
  | zero =>
    intro g _
    refine ⟨?_, ?_, ?_, ?_, ?_⟩ <;> intros <;> simp_all [parseOperand, productLoop, parseProduct, sumLoop, parseSum]
  | succ f ih =>
    intro g hle
    cases g with
    | zero => exact absurd hle (Nat.not_succ_le_zero f)
    | succ g =>
    obtain ⟨hO, hPL, hP, hSL, hS⟩ := ih g (Nat.le_of_succ_le_succ hle)
    refine ⟨?_, ?_, ?_, ?_, ?_⟩
    · intro ts r h
      cases ts with
      | nil => simp [parseOperand] at h
      | cons t rest =>
        cases t with
        | atom s => simpa [parseOperand] using h
        | op _ | rp => simp [parseOperand] at h
        | lp =>
          simp only [parseOperand] at h ⊢
          cases hs : parseSum f rest with
          | none => simp [hs] at h
          | some x =>
            rw [hS rest x hs]
            rw [hs] at h
            exact h
    · intro acc ts r h
      cases ts with
      | nil => simpa [productLoop] using h
      | cons t rest =>
        cases t with
        | atom _ | lp | rp => simpa [productLoop] using h
        | op c =>
          simp only [productLoop] at h ⊢
          by_cases hc : c = '*' ∨ c = '/'
          · rw [if_pos hc] at h ⊢
            cases ho : parseOperand f rest with
            | none => simp [ho] at h
            | some x =>
              rw [hO rest x ho]
              rw [ho] at h
              simp only at h ⊢
              exact hPL _ _ _ h
          · rw [if_neg hc] at h ⊢
            exact h
    · intro ts r h
      simp only [parseProduct] at h ⊢
      cases ho : parseOperand f ts with
      | none => simp [ho] at h
      | some x =>
        rw [hO ts x ho]
        rw [ho] at h
        simp only at h ⊢
        exact hPL _ _ _ h
    · intro acc ts r h
      cases ts with
      | nil => simpa [sumLoop] using h
      | cons t rest =>
        cases t with
        | atom _ | lp | rp => simpa [sumLoop] using h
        | op c =>
          simp only [sumLoop] at h ⊢
          by_cases hc : c = '+' ∨ c = '-'
          · rw [if_pos hc] at h ⊢
            cases ho : parseProduct f rest with
            | none => simp [ho] at h
            | some x =>
              rw [hP rest x ho]
              rw [ho] at h
              simp only at h ⊢
              exact hSL _ _ _ h
          · rw [if_neg hc] at h ⊢
            exact h
    · intro ts r h
      simp only [parseSum] at h ⊢
      cases ho : parseProduct f ts with
      | none => simp [ho] at h
      | some x =>
        rw [hP ts x ho]
        rw [ho] at h
        simp only at h ⊢
        exact hSL _ _ _ h

theorem operand_le {f g : Nat} (h : f ≤ g) {ts r} (hf : parseOperand f ts = some r) : parseOperand g ts = some r :=
  (fuel_mono f g h).1 ts r hf
theorem ploop_le {f g : Nat} (h : f ≤ g) {acc ts r} (hf : productLoop f acc ts = some r) : productLoop g acc ts = some r :=
  (fuel_mono f g h).2.1 acc ts r hf
theorem product_le {f g : Nat} (h : f ≤ g) {ts r} (hf : parseProduct f ts = some r) : parseProduct g ts = some r :=
  (fuel_mono f g h).2.2.1 ts r hf
theorem sloop_le {f g : Nat} (h : f ≤ g) {acc ts r} (hf : sumLoop f acc ts = some r) : sumLoop g acc ts = some r :=
  (fuel_mono f g h).2.2.2.1 acc ts r hf
theorem sum_le {f g : Nat} (h : f ≤ g) {ts r} (hf : parseSum f ts = some r) : parseSum g ts = some r :=
  (fuel_mono f g h).2.2.2.2 ts r hf

def NoMul : List Tok → Prop
  | Tok.op c :: _ => c ≠ '*' ∧ c ≠ '/'
  | _ => True

theorem ploop_stop (e : AExpr) (rest : List Tok) (h : NoMul rest) : productLoop 1 e rest = some (e, rest) := by
  cases rest with
  | nil => simp [productLoop]
  | cons t r =>
    cases t with
    | op c => simp only [NoMul] at h; simp [productLoop, h.1, h.2]
    | atom _ | lp | rp => simp [productLoop]

theorem product_of_operand {f g : Nat} {ts rest : List Tok} {e : AExpr} {r}
    (ho : parseOperand f ts = some (e, rest)) (hl : productLoop g e rest = some r) :
    parseProduct (max f g + 1) ts = some r := by
  simp only [parseProduct, operand_le (Nat.le_max_left f g) ho]
  exact ploop_le (Nat.le_max_right f g) hl

theorem sum_of_product {f g : Nat} {ts rest : List Tok} {e : AExpr} {r}
    (hp : parseProduct f ts = some (e, rest)) (hl : sumLoop g e rest = some r) :
    parseSum (max f g + 1) ts = some r := by
  simp only [parseSum, product_le (Nat.le_max_left f g) hp]
  exact sloop_le (Nat.le_max_right f g) hl

theorem ploop_step {f g : Nat} (c : Char) (hc : c = '*' ∨ c = '/') {acc x : AExpr} {ts rest : List Tok} {r}
    (ho : parseOperand f ts = some (x, rest))
    (hl : productLoop g (if c = '*' then .mul acc x else .div acc x) rest = some r) :
    productLoop (max f g + 1) acc (Tok.op c :: ts) = some r := by
  simp only [productLoop, if_pos hc, operand_le (Nat.le_max_left f g) ho]
  exact ploop_le (Nat.le_max_right f g) hl

theorem sloop_step {f g : Nat} (c : Char) (hc : c = '+' ∨ c = '-') {acc x : AExpr} {ts rest : List Tok} {r}
    (hp : parseProduct f ts = some (x, rest))
    (hl : sumLoop g (if c = '+' then .add acc x else .sub acc x) rest = some r) :
    sumLoop (max f g + 1) acc (Tok.op c :: ts) = some r := by
  simp only [sumLoop, if_pos hc, product_le (Nat.le_max_left f g) hp]
  exact sloop_le (Nat.le_max_right f g) hl

def size : AExpr → Nat
  | .opnd _ => 1
  | .add l r | .sub l r | .mul l r | .div l r => 1 + size l + size r

theorem size_pos (e : AExpr) : 1 ≤ size e := by cases e <;> simp [size] <;> omega

theorem ploop_fuel_pos {g acc ts r} (h : productLoop g acc ts = some r) : 1 ≤ g := by
  cases g with
  | zero => simp [productLoop] at h
  | succ n => omega
theorem sloop_fuel_pos {g acc ts r} (h : sumLoop g acc ts = some r) : 1 ≤ g := by
  cases g with
  | zero => simp [sumLoop] at h
  | succ n => omega

section Main
variable (extra : Bool)

/-- `e` as it is printed in a position where the grammar wants precedence level `need` -/
def printAt (need : Nat) (e : AExpr) : List Tok := wrap extra need e.level (printTop extra e)

/-- The round-trip statements, one per grammar level.  At product and sum level the parser does not stop behind `e`: it
    enters its loop with `e` as the accumulator.  The statement is therefore relative to what that loop returns
    (`productLoop g e rest = some r`): the parse of `print e ++ rest` returns the same, with `7` more fuel per node. -/
def OperandOk (e : AExpr) : Prop := ∀ rest, parseOperand (7 * size e + 3) (printAt extra 2 e ++ rest) = some (e, rest)
def ProductOk (e : AExpr) : Prop := 1 ≤ e.level → ∀ rest r g, productLoop g e rest = some r →
  parseProduct (g + 7 * size e) (printTop extra e ++ rest) = some r
def SumOk (e : AExpr) : Prop := ∀ rest r g, NoMul rest → sumLoop g e rest = some r →
  parseSum (g + 7 * size e + 1) (printTop extra e ++ rest) = some r

theorem printAt_two (e : AExpr) (h : e.level < 2) : printAt extra 2 e = Tok.lp :: printTop extra e ++ [Tok.rp] := by
  simp [printAt, wrap, h]

/-- parenthesised (then the top operator is binary) or bare (then its level is high enough) -/
theorem printAt_cases (need : Nat) (hn : need ≤ 2) (e : AExpr) :
    (e.level < 2 ∧ printAt extra need e = Tok.lp :: printTop extra e ++ [Tok.rp]) ∨
    (need ≤ e.level ∧ printAt extra need e = printTop extra e) := by
  unfold printAt wrap
  split
  · rename_i h
    simp only [Bool.or_eq_true, Bool.and_eq_true, decide_eq_true_eq] at h
    exact .inl ⟨by rcases h with h | ⟨-, h⟩ <;> omega, rfl⟩
  · rename_i h
    simp only [Bool.or_eq_true, Bool.and_eq_true, decide_eq_true_eq, not_or] at h
    exact .inr ⟨by omega, rfl⟩

theorem product_printAt (x : AExpr) (ha : OperandOk extra x) (hb : ProductOk extra x) (rest : List Tok) (r : AExpr × List Tok) (g : Nat)
    (hg : productLoop g x rest = some r) : parseProduct (g + 7 * size x + 3) (printAt extra 1 x ++ rest) = some r := by
  have hg1 := ploop_fuel_pos hg
  rcases printAt_cases extra 1 (by decide) x with ⟨hl, hW⟩ | ⟨hl, hW⟩ <;> rw [hW]
  · have hf := ha rest
    rw [printAt_two extra x hl] at hf
    exact product_le (by omega) (product_of_operand hf hg)
  · exact product_le (by omega) (hb hl rest r g hg)

theorem sum_printAt (x : AExpr) (ha : OperandOk extra x) (hd : SumOk extra x) (rest : List Tok) (r : AExpr × List Tok) (g : Nat)
    (hn : NoMul rest) (hg : sumLoop g x rest = some r) : parseSum (g + 7 * size x + 4) (printAt extra 0 x ++ rest) = some r := by
  have hg1 := sloop_fuel_pos hg
  rcases printAt_cases extra 0 (by decide) x with ⟨hl, hW⟩ | ⟨-, hW⟩ <;> rw [hW]
  · have hf := ha rest
    rw [printAt_two extra x hl] at hf
    exact sum_le (by omega) (sum_of_product (product_of_operand hf (ploop_stop x rest hn)) hg)
  · exact sum_le (by omega) (hd rest r g hn hg)

theorem operandOk_of_sumOk (e : AExpr) (hlev : e.level < 2) (hd : SumOk extra e) : OperandOk extra e := by
  intro rest
  have hf := hd (Tok.rp :: rest) (e, Tok.rp :: rest) 1 trivial (by simp [sumLoop])
  have : Tok.lp :: printTop extra e ++ [Tok.rp] ++ rest = Tok.lp :: (printTop extra e ++ Tok.rp :: rest) := by simp
  rw [printAt_two extra e hlev, this, show 7 * size e + 3 = (1 + 7 * size e + 1) + 1 by omega]
  simp only [parseOperand, hf]

theorem sumOk_of_productOk (e : AExpr) (hlev : 1 ≤ e.level) (hb : ProductOk extra e) : SumOk extra e := by
  intro rest r g hn hg
  have hg1 := sloop_fuel_pos hg
  exact sum_le (by omega) (sum_of_product (hb hlev rest (e, rest) 1 (ploop_stop e rest hn)) hg)

/-- a sum node `l ± r`: the right operand at product level, then the left one at sum level with the `±` step pending -/
theorem sum_node (c : Char) (hc : c = '+' ∨ c = '-') (l r : AExpr) (al : OperandOk extra l) (dl : SumOk extra l)
    (ar : OperandOk extra r) (br : ProductOk extra r) (rest : List Tok) (res : AExpr × List Tok) (g : Nat) (hn : NoMul rest)
    (hg : sumLoop g (if c = '+' then .add l r else .sub l r) rest = some res) :
    parseSum (g + 7 * (1 + size l + size r) + 1) (printAt extra 0 l ++ Tok.op c :: printAt extra 1 r ++ rest) = some res := by
  have hg1 := sloop_fuel_pos hg
  have h1 := product_printAt extra r ar br rest (r, rest) 1 (ploop_stop r rest hn)
  have hn' : NoMul (Tok.op c :: (printAt extra 1 r ++ rest)) := by rcases hc with rfl | rfl <;> simp [NoMul]
  have h2 := sum_printAt extra l al dl _ res _ hn' (sloop_step (acc := l) c hc h1 hg)
  rw [List.append_assoc, List.cons_append]
  exact sum_le (by omega) h2

/-- a product node `l */ r`: the right operand, then the left one at product level with the step pending -/
theorem product_node (c : Char) (hc : c = '*' ∨ c = '/') (l r : AExpr) (al : OperandOk extra l) (bl : ProductOk extra l)
    (ar : OperandOk extra r) (rest : List Tok) (res : AExpr × List Tok) (g : Nat)
    (hg : productLoop g (if c = '*' then .mul l r else .div l r) rest = some res) :
    parseProduct (g + 7 * (1 + size l + size r)) (printAt extra 1 l ++ Tok.op c :: printAt extra 2 r ++ rest) = some res := by
  have hg1 := ploop_fuel_pos hg
  have h2 := product_printAt extra l al bl _ res _ (ploop_step (acc := l) c hc (ar rest) hg)
  rw [List.append_assoc, List.cons_append]
  exact product_le (by omega) h2

theorem roundtrip_main : ∀ e : AExpr, OperandOk extra e ∧ ProductOk extra e ∧ SumOk extra e := by
  intro e
  induction e with
  | opnd s =>
    have hb : ProductOk extra (.opnd s) := by
      intro _ rest r g hg
      have hg1 := ploop_fuel_pos hg
      have ho : parseOperand 1 (printTop extra (.opnd s) ++ rest) = some (.opnd s, rest) := by simp [printTop, parseOperand]
      exact product_le (by simp only [size]; omega) (product_of_operand ho hg)
    refine ⟨fun rest => ?_, hb, sumOk_of_productOk extra _ (by simp [AExpr.level]) hb⟩
    have : printAt extra 2 (.opnd s) = [Tok.atom s] := by simp [printAt, wrap, AExpr.level, printTop]
    rw [this]; simp [parseOperand, size]
  | add l r ihl ihr =>
    have hd : SumOk extra (.add l r) := sum_node extra '+' (.inl rfl) l r ihl.1 ihl.2.2 ihr.1 ihr.2.1
    exact ⟨operandOk_of_sumOk extra _ (by simp [AExpr.level]) hd, fun h => by simp [AExpr.level] at h, hd⟩
  | sub l r ihl ihr =>
    have hd : SumOk extra (.sub l r) := sum_node extra '-' (.inr rfl) l r ihl.1 ihl.2.2 ihr.1 ihr.2.1
    exact ⟨operandOk_of_sumOk extra _ (by simp [AExpr.level]) hd, fun h => by simp [AExpr.level] at h, hd⟩
  | mul l r ihl ihr =>
    have hb : ProductOk extra (.mul l r) := fun _ => product_node extra '*' (.inl rfl) l r ihl.1 ihl.2.1 ihr.1
    have hd := sumOk_of_productOk extra _ (by simp [AExpr.level]) hb
    exact ⟨operandOk_of_sumOk extra _ (by simp [AExpr.level]) hd, hb, hd⟩
  | div l r ihl ihr =>
    have hb : ProductOk extra (.div l r) := fun _ => product_node extra '/' (.inr rfl) l r ihl.1 ihl.2.1 ihr.1
    have hd := sumOk_of_productOk extra _ (by simp [AExpr.level]) hb
    exact ⟨operandOk_of_sumOk extra _ (by simp [AExpr.level]) hd, hb, hd⟩

theorem wrap_length (need lvl : Nat) (body : List Tok) : body.length ≤ (wrap extra need lvl body).length := by
  unfold wrap; split <;> simp <;> omega

theorem bin_length {L R : List Tok} {sl sr : Nat} (hl : sl ≤ L.length) (hr : sr ≤ R.length) (a b la lb : Nat) (c : Char) :
    1 + sl + sr ≤ (wrap extra a la L ++ Tok.op c :: wrap extra b lb R).length := by
  have := wrap_length extra a la L
  have := wrap_length extra b lb R
  simp only [List.length_append, List.length_cons]; omega

theorem size_le_length (e : AExpr) : size e ≤ (printTop extra e).length := by
  induction e with
  | opnd s => exact Nat.le_refl 1
  | add l r ihl ihr | sub l r ihl ihr | mul l r ihl ihr | div l r ihl ihr => exact bin_length extra ihl ihr _ _ _ _ _

theorem roundtrip (e : AExpr) : parseSum (8 * (printA extra e).length + 8) (printA extra e) = some (e, []) := by
  have hf := (roundtrip_main extra e).2.2 [] (e, []) 1 trivial (by simp [sumLoop])
  have hs := size_le_length extra e
  have := sum_le (g := 8 * (printA extra e).length + 8) (by simp only [printA]; omega) hf
  simpa [printA] using this
end Main

end Kolibrie.Arith
