import Kolibrie.Lemmas.Implement
/-! The implementation's two-valued filter evaluation against the algebra's three-valued one, and the FILTERs of a
    group (deferred by the lowering to the end of the group). -/
namespace Kolibrie.Engine
open List

/-- on rows that bind every variable of the expression, `evaluate_filter_with_ids` is SPARQL evaluation -/
theorem eval3_eq_some_eval (c : Cond) (row : Row) (h : boundIn row c.vars) :
    c.eval3 row = some (c.eval row) := by
  induction c with
  | cmp v op rhs =>
    obtain ⟨x, hx⟩ := Option.isSome_iff_exists.1 (h v (by cases rhs <;> exact mem_cons_self))
    cases rhs with
    | var w =>
      obtain ⟨y, hy⟩ := Option.isSome_iff_exists.1 (h w (mem_cons_of_mem _ mem_cons_self))
      simp only [Cond.eval3, Cond.eval, hx, hy, Option.map_some]
    | const r => simp only [Cond.eval3, Cond.eval, hx]
  | and a b iha ihb | or a b iha ihb =>
    have ha := iha (fun v hv => h v (mem_append_left _ hv))
    have hb := ihb (fun v hv => h v (mem_append_right _ hv))
    simp only [Cond.eval3, Cond.eval, ha, hb]
    cases a.eval row <;> cases b.eval row <;> rfl
  | not a ih => simp only [Cond.eval3, Cond.eval, ih h, Option.map_some]

theorem keeps_eq_eval_of_boundIn (c : Cond) (row : Row) (h : boundIn row c.vars) : keeps c row = c.eval row := by
  unfold keeps; rw [eval3_eq_some_eval c row h]; cases c.eval row <;> rfl

/-- the executor's plan for the deferred filters of a group is a sequence of `Cond.eval` selections -/
def implFilters (rows : List Row) : List Pat → List Row
  | [] => rows
  | .filter c :: rest => implFilters (rows.filter c.eval) rest
  | _ :: rest => implFilters rows rest

/-! `lowerFilters`, `implFilters`, `semFilters` walk the elements of a group and act on the FILTERs among them; each is a
fold over the conditions `groupConds`, and a fold of selections is one selection by the conjunction. -/

def groupConds : List Pat → List Cond
  | [] => []
  | .filter c :: rest => c :: groupConds rest
  | _ :: rest => groupConds rest

theorem mem_groupConds {c : Cond} {elems : List Pat} : c ∈ groupConds elems ↔ Pat.filter c ∈ elems := by
  induction elems with
  | nil => exact ⟨fun h => (nomatch h), fun h => (nomatch h)⟩
  | cons e rest ih => cases e <;> simp [groupConds, ih]

theorem foldl_filter {α β} (p : β → α → Bool) (cs : List β) (rows : List α) :
    cs.foldl (fun rs c => rs.filter (p c)) rows = rows.filter (fun r => cs.all (fun c => p c r)) := by
  induction cs generalizing rows with
  | nil => exact (filter_eq_self.2 fun _ _ => rfl).symm
  | cons c cs ih =>
    rw [foldl_cons, ih, filter_filter]
    exact filter_congr fun r _ => by rw [all_cons, Bool.and_comm]

theorem all_congr_left {α} (l : List α) (p q : α → Bool) (h : ∀ a ∈ l, p a = q a) : l.all p = l.all q := by
  rw [Bool.eq_iff_iff, all_eq_true, all_eq_true]
  exact ⟨fun hp a ha => h a ha ▸ hp a ha, fun hq a ha => (h a ha).symm ▸ hq a ha⟩

theorem lowerFilters_eq (plan : Logical) (elems : List Pat) :
    lowerFilters plan elems = (groupConds elems).foldl Logical.filter plan := by
  induction elems generalizing plan with
  | nil => rfl
  | cons e rest ih => cases e <;> exact ih _

theorem implFilters_eq (rows : List Row) (elems : List Pat) :
    implFilters rows elems = rows.filter (fun r => (groupConds elems).all (fun c => c.eval r)) := by
  rw [← foldl_filter (fun (c : Cond) => c.eval)]
  induction elems generalizing rows with
  | nil => rfl
  | cons e rest ih => cases e <;> exact ih _

theorem semFilters_eq (rows : List Row) (elems : List Pat) :
    semFilters rows elems = rows.filter (fun r => (groupConds elems).all (fun c => keeps c r)) := by
  rw [← foldl_filter keeps]
  induction elems generalizing rows with
  | nil => rfl
  | cons e rest ih => cases e <;> exact ih _

/-- however the logical plan is turned into a physical one (`impl`), as long as filters stay filters -/
theorem lowerFilters_exec_of (impl : Logical → Plan) (himpl : ∀ i c, impl (.filter i c) = .filter (impl i) c)
    (db : DB) (ctx : Ctx) (inc : List Row) (plan : Logical) (elems : List Pat) :
    exec db (impl (lowerFilters plan elems)) ctx inc = implFilters (exec db (impl plan) ctx inc) elems := by
  rw [lowerFilters_eq, implFilters_eq, ← foldl_filter (fun (c : Cond) => c.eval)]
  induction groupConds elems generalizing plan with
  | nil => rfl
  | cons c cs ih => rw [foldl_cons, foldl_cons, ih, himpl, exec_filter]

theorem implFilters_eq_semFilters (rows : List Row) (elems : List Pat)
    (h : ∀ c, Pat.filter c ∈ elems → ∀ r ∈ rows, boundIn r c.vars) :
    implFilters rows elems = semFilters rows elems := by
  rw [implFilters_eq, semFilters_eq]
  exact filter_congr fun r hr => all_congr_left _ _ _ fun c hc =>
    (keeps_eq_eval_of_boundIn c r (h c (mem_groupConds.1 hc) r hr)).symm

end Kolibrie.Engine
