import Kolibrie.Model.Syntax
/-! Token-level print/parse round trip, first part.  The predicates the round-trip theorems are stated with: `wf…` (joins
and unions have ≥ 2 members, statements ≥ 1 predicate, variables where the parser looks at the sigil), `fits…` (the
nesting guard lets the printed tree through), `fuel…` (fuel that suffices).  Then FILTER expressions (`parseOr_print`),
triples statements and FILTERs as group elements, and the rejection of braces nested beyond the limit
(`deep_braces_rejected`).  `SyntaxNested` does the nested fragment. -/
namespace Kolibrie.Syntax

/-- fuel that certainly suffices for `parseOr` on the printed expression -/
def fuelF : FExpr → Nat
  | .cmp _ _ _ => 4
  | .and a b => fuelF a + fuelF b + 6
  | .or a b => fuelF a + fuelF b + 6
  | .not a => fuelF a + 4

/-- the nesting guard lets the printed expression through when `parseOr` is entered with counter `k` -/
def fitsF (k : Nat) : FExpr → Bool
  | .cmp _ _ _ => guardOk (k + 1)
  | .and a b => guardOk k && fitsF (k + 1) a && fitsF (k + 1) b
  | .or a b => guardOk k && fitsF (k + 1) a && fitsF (k + 1) b
  | .not a => guardOk (k + 1) && fitsF (k + 2) a

def wfF : FExpr → Bool
  | .cmp _ op _ => isCmpOp op
  | .and a b => wfF a && wfF b
  | .or a b => wfF a && wfF b
  | .not a => wfF a

def noAndHead : List Tok → Bool
  | .sym s :: _ => !(s == "&&")
  | _ => true
def noOrHead : List Tok → Bool
  | .sym s :: _ => !(s == "||")
  | _ => true
/-- the token after an expression is not a boolean operator (it is `)` wherever the printer puts an expression) -/
def noOpHead (l : List Tok) : Bool := noAndHead l && noOrHead l

theorem fuel_ge {a fuel : Nat} (n : Nat) (h : a + n ≤ fuel) : ∃ f, fuel = f + n ∧ a ≤ f :=
  ⟨fuel - n, (Nat.sub_add_cancel (Nat.le_trans (Nat.le_add_left n a) h)).symm, Nat.le_sub_of_add_le h⟩

theorem guardOk_of_succ {k : Nat} (h : guardOk (k + 1) = true) : guardOk k = true := by
  simp [guardOk] at *; omega

theorem fitsF_guard : ∀ (e : FExpr) (k : Nat), fitsF k e = true → guardOk k = true
  | .cmp _ _ _, k, h => guardOk_of_succ (by simpa [fitsF] using h)
  | .and a b, k, h => by simp [fitsF] at h; exact h.1.1
  | .or a b, k, h => by simp [fitsF] at h; exact h.1.1
  | .not a, k, h => by simp [fitsF] at h; exact guardOk_of_succ h.1

theorem andTail_stop (f k : Nat) (acc : FExpr) (rest : List Tok) (h : noAndHead rest = true) :
    parseAndTail (f + 1) k acc rest = some (acc, rest) := by
  unfold parseAndTail
  split
  · simp_all
  · simp [noAndHead] at h
  · rfl

theorem orTail_stop (f k : Nat) (acc : FExpr) (rest : List Tok) (h : noOrHead rest = true) :
    parseOrTail (f + 1) k acc rest = some (acc, rest) := by
  unfold parseOrTail
  split
  · simp_all
  · simp [noOrHead] at h
  · rfl

theorem atom_paren (f k : Nat) (X : List Tok) (e : FExpr) (r : List Tok) (hg : guardOk k = true)
    (h : parseOr f (k + 1) (X ++ sy ")" :: r) = some (e, sy ")" :: r)) :
    parseAtom (f + 1) k (sy "(" :: (X ++ sy ")" :: r)) = some (e, r) := by
  simp only [sy] at h ⊢
  unfold parseAtom
  simp [hg, h]

theorem atom_not (f k : Nat) (X : List Tok) (e : FExpr) (r : List Tok) (hg : guardOk k = true)
    (h : parseAtom f (k + 1) X = some (e, r)) :
    parseAtom (f + 1) k (sy "!" :: X) = some (.not e, r) := by
  simp only [sy] at h ⊢
  unfold parseAtom
  simp [hg, h]

theorem and_of_atom (f k : Nat) (toks : List Tok) (e : FExpr) (r : List Tok)
    (h : parseAtom (f + 1) k toks = some (e, r)) (hr : noAndHead r = true) :
    parseAnd (f + 2) k toks = some (e, r) := by
  unfold parseAnd
  rw [h]
  exact andTail_stop f k e r hr

theorem or_of_and (f k : Nat) (toks : List Tok) (e : FExpr) (r : List Tok)
    (h : parseAnd (f + 1) k toks = some (e, r)) (hr : noOrHead r = true) :
    parseOr (f + 2) k toks = some (e, r) := by
  unfold parseOr
  rw [h]
  exact orTail_stop f k e r hr

theorem andTail_step (f k : Nat) (acc e : FExpr) (X r : List Tok)
    (h : parseAtom (f + 1) k X = some (e, r)) (hr : noAndHead r = true) :
    parseAndTail (f + 2) k acc (sy "&&" :: X) = some (.and acc e, r) := by
  simp only [sy]
  unfold parseAndTail
  simp [h]
  exact andTail_stop f k _ r hr

theorem orTail_step (f k : Nat) (acc e : FExpr) (X r : List Tok)
    (h : parseAnd (f + 1) k X = some (e, r)) (hr : noOrHead r = true) :
    parseOrTail (f + 2) k acc (sy "||" :: X) = some (.or acc e, r) := by
  simp only [sy]
  unfold parseOrTail
  simp [h]
  exact orTail_stop f k _ r hr

theorem noOp_and {l : List Tok} (h : noOpHead l = true) : noAndHead l = true := by
  simp [noOpHead] at h; exact h.1
theorem noOp_or {l : List Tok} (h : noOpHead l = true) : noOrHead l = true := by
  simp [noOpHead] at h; exact h.2

theorem noOpHead_close (r : List Tok) : noOpHead (sy ")" :: r) = true := by
  simp [noOpHead, noAndHead, noOrHead, sy]

theorem or_of_atom (f k : Nat) (toks : List Tok) (e : FExpr) (r : List Tok)
    (h : parseAtom (f + 1) k toks = some (e, r)) (hr : noOpHead r = true) :
    parseOr (f + 3) k toks = some (e, r) :=
  or_of_and (f + 1) k toks e r (and_of_atom f k toks e r h (noOp_and hr)) (noOp_or hr)

theorem parseOr_print (e : FExpr) : ∀ (k fuel : Nat) (rest : List Tok),
    wfF e = true → fitsF k e = true → fuelF e ≤ fuel → noOpHead rest = true →
    parseOr fuel k (toksF e ++ rest) = some (e, rest) := by
  induction e with
  | cmp l op r =>
    intro k fuel rest hw hf hfu hr
    obtain ⟨n, rfl, -⟩ := fuel_ge 4 (a := 0) hfu
    have hg1 : guardOk (k + 1) = true := hf
    have hop : isCmpOp op = true := hw
    refine or_of_atom (n + 1) k _ _ _ ?_ hr
    simp [parseAtom, toksF, sy, guardOk_of_succ hg1, hg1, hop]
  | and a b iha ihb =>
    intro k fuel rest hw hf hfu hr
    simp only [fuelF] at hfu
    obtain ⟨n, rfl, hn⟩ := fuel_ge 6 hfu
    simp only [fitsF, Bool.and_eq_true] at hf
    simp only [wfF, Bool.and_eq_true] at hw
    simp only [toksF, List.cons_append, List.append_assoc, List.nil_append]
    refine or_of_and (n + 4) k _ _ _ ?_ (noOp_or hr)
    unfold parseAnd
    rw [atom_paren _ k _ _ _ hf.1.1 (iha (k + 1) (n + 3) _ hw.1 hf.1.2 (by omega) (noOpHead_close _))]
    exact andTail_step (n + 2) k a b _ rest (atom_paren _ k _ _ _ hf.1.1
      (ihb (k + 1) (n + 2) _ hw.2 hf.2 (by omega) (noOpHead_close _))) (noOp_and hr)
  | or a b iha ihb =>
    intro k fuel rest hw hf hfu hr
    simp only [fuelF] at hfu
    obtain ⟨n, rfl, hn⟩ := fuel_ge 6 hfu
    simp only [fitsF, Bool.and_eq_true] at hf
    simp only [wfF, Bool.and_eq_true] at hw
    simp only [toksF, List.cons_append, List.append_assoc, List.nil_append]
    unfold parseOr
    rw [and_of_atom (n + 3) k _ _ _ (atom_paren _ k _ _ _ hf.1.1
      (iha (k + 1) (n + 3) _ hw.1 hf.1.2 (by omega) (noOpHead_close _))) (by simp [noAndHead, sy])]
    exact orTail_step (n + 3) k a b _ rest (and_of_atom (n + 2) k _ _ _ (atom_paren _ k _ _ _ hf.1.1
      (ihb (k + 1) (n + 2) _ hw.2 hf.2 (by omega) (noOpHead_close _))) (noOp_and hr)) (noOp_or hr)
  | not a iha =>
    intro k fuel rest hw hf hfu hr
    simp only [fuelF] at hfu
    obtain ⟨n, rfl, hn⟩ := fuel_ge 4 hfu
    simp only [fitsF, Bool.and_eq_true] at hf
    simp only [toksF, List.cons_append, List.append_assoc, List.nil_append]
    exact or_of_atom (n + 1) k _ _ _ (atom_not _ k _ _ _ (guardOk_of_succ hf.1) (atom_paren _ (k + 1) _ _ _ hf.1
      (iha (k + 2) n _ hw hf.2 hn (noOpHead_close _)))) hr

theorem lexNat_natDigits (n : Nat) : lexNat (natDigits n) = n := Nat.ofDigitChars_ten_toDigits

theorem allDigits_natDigits (n : Nat) : allDigits (natDigits n) = true := by
  simp only [allDigits, natDigits, Bool.and_eq_true, Bool.not_eq_true', List.all_eq_true]
  refine ⟨?_, fun c hc => Nat.isDigit_of_mem_toDigits (by decide) (by decide) hc⟩
  cases h : Nat.toDigits 10 n with
  | nil => exact absurd h Nat.toDigits_ne_nil
  | cons _ _ => rfl

/-! ### patterns -/

def isVarStart : Lexeme → Bool
  | c :: _ => c == '?' || c == '$'
  | [] => false

mutual
def fuelP : Pat → Nat
  | .unit => 12
  | .bgp _ pos => pos.length + 12
  | .join ps => fuelL ps + 12
  | .union ps => fuelL ps + 12
  | .graph _ p => fuelP p + 12
  | .filter e => fuelF e + 12
  | .sub q => fuelS q + 12
def fuelL : PatList → Nat
  | .nil => 2
  | .cons p ps => fuelP p + fuelL ps + 12
def fuelS : Sel → Nat
  | .mk _ _ pat _ _ _ => fuelP pat + 12
end

mutual
def wfP : Pat → Bool
  | .unit => true
  | .bgp _ pos => !pos.isEmpty
  | .join ps => decide (2 ≤ ps.length) && wfL ps
  | .union ps => decide (2 ≤ ps.length) && wfL ps
  | .graph _ p => wfP p
  | .filter e => wfF e
  | .sub q => wfS q
def wfL : PatList → Bool
  | .nil => true
  | .cons p ps => wfP p && wfL ps
def wfS : Sel → Bool
  | .mk _ vars pat gb ob _ =>
    vars.all isVarStart && wfP pat && gb.all isVarStart && ob.all (fun o => o.2 || isVarStart o.1)
end

mutual
/-- the nesting guard lets the pattern through when it is parsed as a group element with counter `k` -/
def fitsItem (k : Nat) : Pat → Bool
  | .unit => guardOk k
  | .bgp _ _ => true
  | .join ps => guardOk k && fitsItems (k + 1) ps
  | .union ps => fitsAlts k ps
  | .graph _ p => fitsBraced k p
  | .filter e => fitsF k e
  | .sub q => fitsSel k q
/-- … when it is parsed as a braced group with counter `k` -/
def fitsBraced (k : Nat) : Pat → Bool
  | .unit => guardOk k
  | .bgp _ _ => guardOk k
  | .join ps => guardOk k && fitsItems (k + 1) ps
  | .union ps => guardOk k && fitsAlts (k + 1) ps
  | .graph _ p => guardOk k && fitsBraced (k + 1) p
  | .filter e => guardOk k && fitsF (k + 1) e
  | .sub q => guardOk k && fitsSel (k + 1) q
def fitsItems (k : Nat) : PatList → Bool
  | .nil => true
  | .cons p ps => fitsItem k p && fitsItems k ps
def fitsAlts (k : Nat) : PatList → Bool
  | .nil => true
  | .cons p ps => fitsBraced k p && fitsAlts k ps
def fitsSel (k : Nat) : Sel → Bool
  | .mk _ _ pat _ _ _ => fitsBraced k pat
end

def noSemiHead : List Tok → Bool
  | .sym s :: _ => !(s == ";")
  | _ => true

theorem toksPos_cons2 (p o : Lexeme) (q : Lexeme × Lexeme) (r : List (Lexeme × Lexeme)) :
    toksPos ((p, o) :: q :: r) = .term p :: .term o :: sy ";" :: toksPos (q :: r) := by
  simp [toksPos]

theorem toksPos_head (q : Lexeme × Lexeme) (r : List (Lexeme × Lexeme)) :
    ∃ t, toksPos (q :: r) = .term q.1 :: t := by
  cases r with
  | nil => exact ⟨[.term q.2], by simp [toksPos]⟩
  | cons a r => exact ⟨_, toksPos_cons2 q.1 q.2 a r⟩

theorem parsePos_last (f : Nat) (p o : Lexeme) (rest : List Tok) (hr : noSemiHead rest = true) :
    parsePos (f + 1) (.term p :: .term o :: rest) = some ([(p, o)], rest) := by
  cases rest with
  | nil => simp [parsePos]
  | cons t r' =>
    cases t with
    | kw k => simp [parsePos]
    | term x => simp [parsePos]
    | sym x =>
      have hx : x ≠ ";" := by simpa [noSemiHead] using hr
      simp [parsePos, hx]

theorem parsePos_print : ∀ (pos : List (Lexeme × Lexeme)) (fuel : Nat) (rest : List Tok),
    pos ≠ [] → pos.length ≤ fuel → noSemiHead rest = true →
    parsePos fuel (toksPos pos ++ rest) = some (pos, rest)
  | [], _, _, h, _, _ => absurd rfl h
  | [(p, o)], fuel, rest, _, hf, hr => by
    obtain ⟨f, rfl, -⟩ := fuel_ge 1 (a := 0) hf
    exact parsePos_last f p o rest hr
  | (p, o) :: q :: r, fuel, rest, _, hf, hr => by
    obtain ⟨f, rfl, hf'⟩ := fuel_ge 1 (a := (q :: r).length) hf
    obtain ⟨t, ht⟩ := toksPos_head q r
    have ih := parsePos_print (q :: r) f rest (List.cons_ne_nil _ _) hf' hr
    rw [ht] at ih
    rw [toksPos_cons2, ht]
    simp only [List.cons_append, sy] at ih ⊢
    simp [parsePos, ih]

/-- what may follow a group element: not `;` (the triples statement would continue) and not `UNION` -/
def okAfterElem : List Tok → Bool
  | .sym s :: _ => !(s == ";")
  | .kw k :: _ => !(k == "UNION")
  | _ => true

theorem okAfterElem_semi {l : List Tok} (h : okAfterElem l = true) : noSemiHead l = true := by
  cases l with
  | nil => rfl
  | cons t r => cases t <;> simp_all [okAfterElem, noSemiHead]

theorem unionTail_stop (f k : Nat) (b : Bool) (rest : List Tok) (h : okAfterElem rest = true) :
    parseUnionTail (f + 1) k b rest = some (.nil, rest) := by
  cases rest with
  | nil => simp [parseUnionTail]
  | cons t r =>
    cases t with
    | kw x => have hx : x ≠ "UNION" := by simpa [okAfterElem] using h
              simp [parseUnionTail, hx]
    | term x => simp [parseUnionTail]
    | sym x => simp [parseUnionTail]

theorem elem_bgp (f k : Nat) (d : Dots) (s : Lexeme) (pos : List (Lexeme × Lexeme)) (rest : List Tok)
    (hpos : pos ≠ []) (hf : pos.length ≤ f) (hr : okAfterElem rest = true) :
    parseElem (f + 3) k (toksItem d (.bgp s pos) ++ rest) = some (.bgp s pos, true, rest) := by
  have hp := parsePos_print pos (f + 1 + 1) rest hpos (by omega) (okAfterElem_semi hr)
  have hprim : parsePrimary (f + 1 + 1) k (Tok.term s :: (toksPos pos ++ rest)) = some (.bgp s pos, rest) := by
    unfold parsePrimary
    simp [hp]
  have ht : toksItem d (.bgp s pos) ++ rest = Tok.term s :: (toksPos pos ++ rest) := by simp [toksItem]
  rw [ht]
  show parseElem (f + 2 + 1) k _ = _
  unfold parseElem
  simp only [hprim]
  rw [unionTail_stop (f + 1) k _ rest hr]

theorem elem_filter (f k : Nat) (d : Dots) (e : FExpr) (rest : List Tok)
    (hw : wfF e = true) (hfit : fitsF k e = true) (hf : fuelF e ≤ f) :
    parseElem (f + 1) k (toksItem d (.filter e) ++ rest) = some (.filter e, false, rest) := by
  have h := parseOr_print e k f (sy ")" :: rest) hw hfit hf (noOpHead_close rest)
  have ht : toksItem d (.filter e) ++ rest = kwd "FILTER" :: sy "(" :: (toksF e ++ sy ")" :: rest) := by
    simp [toksItem]
  rw [ht]
  simp only [sy, kwd] at h ⊢
  unfold parseElem
  simp [h]

/-- flat group elements: triples statements and FILTERs -/
def flatElem : Pat → Bool
  | .bgp _ pos => !pos.isEmpty
  | .filter e => wfF e
  | _ => false
def flatList : PatList → Bool
  | .nil => true
  | .cons p ps => flatElem p && flatList ps

theorem items_nil (f k : Nat) (rest : List Tok) :
    parseItems (f + 1) k (sy "}" :: rest) = some (.nil, sy "}" :: rest) := by
  simp [parseItems, sy]

theorem items_cons (f k : Nat) (p : Pat) (ps : PatList) (dotOk : Bool) (t : Tok) (x R res : List Tok)
    (ht : t ≠ .sym "}") (hE : parseElem f k (t :: x) = some (p, dotOk, R))
    (hI : parseItems f k (if dotOk then dropDot R else R) = some (ps, res)) :
    parseItems (f + 1) k (t :: x) = some (.cons p ps, res) := by
  unfold parseItems
  cases t with
  | sym s =>
    have hs : s ≠ "}" := fun h => ht (by rw [h])
    simp [hs, hE, hI]
  | kw k' => simp [hE, hI]
  | term x' => simp [hE, hI]

def isNilL : PatList → Bool
  | .nil => true
  | _ => false

/-- the optional dot the printer puts after a group element (none after a FILTER) -/
def dotAfter (d : Dots) (p : Pat) (last : Bool) : List Tok := if isFilter p then [] else dotTok d last

theorem toksItems_cons (d : Dots) (p : Pat) (ps : PatList) (rest : List Tok) :
    toksItems d (.cons p ps) ++ rest = toksItem d p ++ (dotAfter d p (isNilL ps) ++ (toksItems d ps ++ rest)) := by
  cases ps <;> simp [toksItems, isNilL, dotAfter]

theorem dotTok_cases (d : Dots) (b : Bool) : dotTok d b = [] ∨ dotTok d b = [sy "."] := by
  cases d <;> cases b <;> simp [dotTok]

/-- `parse_group_graph_pattern`'s result for an element list: empty → Unit, singleton → the element, else Join -/
def collapse : PatList → Pat
  | .nil => .unit
  | .cons p .nil => p
  | ps => .join ps

theorem braced_items (f k : Nat) (t : Tok) (x : List Tok) (ps : PatList) (rest : List Tok)
    (ht : t ≠ .kw "SELECT") (hg : guardOk k = true)
    (hI : parseItems f (k + 1) (t :: x) = some (ps, sy "}" :: rest)) :
    parseBraced (f + 1) k (sy "{" :: t :: x) = some (collapse ps, rest) := by
  simp only [sy] at hI ⊢
  rcases t with y | y | y
  · have hy : y ≠ "SELECT" := fun hc => ht (by rw [hc])
    simp [parseBraced, hg, hy, hI]
    cases ps with | nil => rfl | cons p ps' => cases ps' <;> rfl
  · simp [parseBraced, hg, hI]
    cases ps with | nil => rfl | cons p ps' => cases ps' <;> rfl
  · simp [parseBraced, hg, hI]
    cases ps with | nil => rfl | cons p ps' => cases ps' <;> rfl

/-- the flat fragment: `{}` , one triples statement, one FILTER, or a group of at least two of those -/
def flatPat : Pat → Bool
  | .unit => true
  | .bgp _ pos => !pos.isEmpty
  | .filter e => wfF e
  | .join ps => decide (2 ≤ ps.length) && flatList ps
  | _ => false

def noVarHead : List Tok → Bool
  | .term (c :: _) :: _ => !(c == '?' || c == '$')
  | _ => true

theorem parseVars_print : ∀ (vs : List Lexeme) (rest : List Tok), vs.all isVarStart = true → noVarHead rest = true →
    parseVars (vs.map Tok.term ++ rest) = (vs, rest)
  | [], rest, _, hr => by
    cases rest with
    | nil => simp [parseVars]
    | cons t r =>
      cases t with
      | kw k => simp [parseVars]
      | sym s => simp [parseVars]
      | term x =>
        cases x with
        | nil => simp [parseVars]
        | cons c cs =>
          have : (c == '?' || c == '$') = false := by simpa [noVarHead] using hr
          simp [parseVars, this]
  | v :: vs, rest, hv, hr => by
    simp only [List.all_cons, Bool.and_eq_true] at hv
    have ih := parseVars_print vs rest hv.2 hr
    cases v with
    | nil => simp [isVarStart] at hv
    | cons c cs =>
      have hc : (c == '?' || c == '$') = true := by simpa [isVarStart] using hv.1
      simp [parseVars, hc, ih]

/-- end of a (sub-)select: end of input or the closing brace of the sub-select -/
def endOk : List Tok → Bool
  | [] => true
  | .sym s :: _ => s == "}"
  | _ => false

/-- the flat fragment of SELECT: projection of variables or `*`, optional DISTINCT, a flat group, no modifiers -/
def flatSel : Sel → Bool
  | .mk _ vars pat gb ob lim => vars.all isVarStart && flatPat pat && gb.isEmpty && ob.isEmpty && lim.isNone

theorem braced_guard_fail (f d : Nat) (X : List Tok) (h : guardOk d = false) : parseBraced f d X = none := by
  cases f with
  | zero => simp [parseBraced]
  | succ f => unfold parseBraced; simp [h]

theorem sel_guard_fail (f d : Nat) (X : List Tok) (h : guardOk d = false) : parseSel f d X = none := by
  cases f with
  | zero => simp [parseSel]
  | succ f =>
    unfold parseSel
    split
    · simp only [braced_guard_fail _ d _ h]
      split <;> simp
    · rfl

theorem prim_braced (f k : Nat) (t : Tok) (ts : List Tok) (h : t ≠ .kw "SELECT") :
    parsePrimary (f + 1) k (sy "{" :: t :: ts) = parseBraced f k (sy "{" :: t :: ts) := by
  simp only [sy]
  unfold parsePrimary
  cases t with
  | kw x =>
    have hx : x ≠ "SELECT" := fun hc => h (by rw [hc])
    simp [hx]
  | term x => simp
  | sym x => simp

theorem prim_guard_fail (f k : Nat) (X : List Tok) (h : guardOk k = false) : parsePrimary f k (sy "{" :: X) = none := by
  cases f with
  | zero => simp [parsePrimary]
  | succ f =>
    cases X with
    | nil => simp [parsePrimary, sy, braced_guard_fail _ k _ h]
    | cons t ts =>
      by_cases ht : t = .kw "SELECT"
      · subst ht; simp [parsePrimary, sy, sel_guard_fail _ k _ h]
      · rw [prim_braced f k t ts ht]; exact braced_guard_fail _ k _ h

theorem braced_brace_none (f k : Nat) (X : List Tok) (h : ∀ g, parsePrimary g (k + 1) (sy "{" :: X) = none) :
    parseBraced f k (sy "{" :: sy "{" :: X) = none := by
  simp only [sy] at h ⊢
  have hE : ∀ g, parseElem g (k + 1) (.sym "{" :: X) = none := fun g => by
    cases g with
    | zero => simp [parseElem]
    | succ g => simp [parseElem, h g]
  have hI : ∀ g, parseItems g (k + 1) (.sym "{" :: X) = none := fun g => by
    cases g with
    | zero => simp [parseItems]
    | succ g => simp [parseItems, hE g]
  cases f with
  | zero => simp [parseBraced]
  | succ f => simp [parseBraced, hI f]

theorem guardOk_false {k : Nat} (h : Kolibrie.Extracted.maxNestingDepth ≤ k) : guardOk k = false :=
  decide_eq_false (Nat.not_lt.mpr h)

/-- `n + 1` opening braces in a row, entered with guard counter `k`, cannot be parsed once `k + n` reaches the limit —
    whatever follows, with any fuel -/
theorem deep_braces_rejected : ∀ (n fuel k : Nat) (rest : List Tok),
    Kolibrie.Extracted.maxNestingDepth ≤ k + n →
    parseBraced fuel k (List.replicate (n + 1) (sy "{") ++ rest) = none
  | 0, fuel, k, rest, h => braced_guard_fail fuel k _ (guardOk_false h)
  | 1, fuel, k, rest, h => braced_brace_none fuel k rest fun g => prim_guard_fail g (k + 1) rest (guardOk_false h)
  | n + 2, fuel, k, rest, h => by
    refine braced_brace_none fuel k (List.replicate (n + 1) (sy "{") ++ rest) fun g => ?_
    cases g with
    | zero => simp [parsePrimary]
    | succ g =>
      exact (prim_braced g (k + 1) (sy "{") _ (by simp [sy])).trans
        (deep_braces_rejected (n + 1) g (k + 1) rest (by omega))

end Kolibrie.Syntax
