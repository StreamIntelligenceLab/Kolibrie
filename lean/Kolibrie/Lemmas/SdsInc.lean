import Kolibrie.Lemmas.ProvInfer
import Kolibrie.Spec.Sds
/-
C12: the state carried between evaluations satisfies the engine's loop invariant with the new / renewed facts as
delta (`carry_inv`), hence one incremental step from an exact state yields an exact state (`incStep_exact`).
-/
namespace Kolibrie.Prov

/-- threshold reading of `ExpirationProvenance` for evaluations at time `now`: "the expiry is at least τ" -/
def expSem (now : Nat) : Sem Nat Nat expProv :=
  threshSem expProv now le_expDisj le_expConj (fun _ => eq_of_beq) (fun _ _ => eq_of_beq)

/-- membership in `baseAt base τ` (Spec/Sds), as a predicate -/
def inputsB (base : List (Fact × Nat)) (τ : Nat) (f : Fact) : Prop := ∃ e, (f, e) ∈ base ∧ τ ≤ e

def Functional (l : List (Fact × Nat)) : Prop := ∀ g e e', (g, e) ∈ l → (g, e') ∈ l → e = e'

/-- a state is exact for evaluation time `t` over the alive facts `base`: for every threshold above `t` a fact is
    kept with expiry ≥ τ exactly when it is derivable from the base facts of expiry ≥ τ -/
structure ExactAt (rules : List Rule) (base : List (Fact × Nat)) (t : Nat) (state : List (Fact × Nat)) : Prop where
  functional : Functional state
  exact : ∀ τ, t < τ → τ ≤ u64Max → ∀ g, (∃ e, (g, e) ∈ state ∧ τ ≤ e) ↔ Derivable rules (inputsB base τ) g

theorem functionalB_iff {l : List (Fact × Nat)} : functionalB l = true ↔ Functional l := by
  simp only [functionalB, List.all_eq_true, Bool.or_eq_true, Bool.not_eq_true', beq_eq_false_iff_ne, beq_iff_eq,
    Prod.forall]
  exact ⟨fun h g e e' h1 h2 => (h g e h1 g e' h2).resolve_left fun hne => hne rfl,
    fun h g e h1 g' e' h2 => Decidable.or_iff_not_imp_left.mpr fun hg => h g e e' h1 (Decidable.not_not.mp hg ▸ h2)⟩

theorem consistentStep_iff {basePrev base : List (Fact × Nat)} {now : Nat} :
    consistentStep basePrev base now = true ↔
      Functional base ∧ (∀ e ∈ base, now < e.2 ∧ e.2 ≤ u64Max) ∧
      (∀ e ∈ basePrev, now < e.2 → ∃ e' ∈ base, e'.1 = e.1 ∧ e.2 ≤ e'.2) := by
  simp only [consistentStep, Bool.and_eq_true, functionalB_iff, List.all_eq_true, decide_eq_true_eq,
    Bool.or_eq_true, List.any_eq_true, beq_iff_eq, and_assoc]
  refine and_congr_right fun _ => and_congr_right fun _ => forall_congr' fun e => forall_congr' fun _ => ?_
  rw [← Nat.not_lt, Decidable.or_iff_not_imp_left, Decidable.not_not]

def initStep (ts : Tags Nat) (e : Fact × Nat) : Tags Nat := if e.2 < u64Max then setTag ts e.1 e.2 else ts

theorem initTags_eq (l : List (Fact × Nat)) : initTags l = l.foldl initStep [] := rfl

theorem initTags_eq_filter (l : List (Fact × Nat)) :
    initTags l = (l.filter fun e => decide (e.2 < u64Max)).reverse := by
  have fold : ∀ (l : List (Fact × Nat)) (acc : Tags Nat),
      l.foldl initStep acc = (l.filter fun e => decide (e.2 < u64Max)).reverse ++ acc := by
    intro l
    induction l with
    | nil => intro acc; rfl
    | cons e l ih =>
      intro acc
      rw [List.foldl_cons, ih, initStep, List.filter_cons]
      by_cases he : e.2 < u64Max
      · rw [if_pos he, if_pos (decide_eq_true he), List.reverse_cons, List.append_assoc]; rfl
      · rw [if_neg he, if_neg (fun h => he (of_decide_eq_true h))]
  rw [initTags_eq, fold, List.append_nil]

theorem mem_initTags {l : List (Fact × Nat)} {g : Fact} {e : Nat} :
    (g, e) ∈ initTags l ↔ (g, e) ∈ l ∧ e < u64Max := by
  rw [initTags_eq_filter, List.mem_reverse, List.mem_filter, decide_eq_true_eq]

theorem lookupTag_append {T} (X Y : Tags T) (g : Fact) :
    lookupTag (X ++ Y) g = (lookupTag X g).or (lookupTag Y g) := by
  induction X with
  | nil => exact (Option.none_or).symm
  | cons e X ih =>
    rw [List.cons_append, lookupTag, lookupTag]
    by_cases he : e.1 = g
    · rw [if_pos he, if_pos he]; rfl
    · rw [if_neg he, if_neg he, ih]

theorem getTag_initTags_append_some (A B : List (Fact × Nat)) (g : Fact) (x : Nat) (hx : x < u64Max)
    (hm : (g, x) ∈ B) (hf : ∀ e', (g, e') ∈ B → e' = x) : getTag expProv (initTags (A ++ B)) g = x := by
  rw [getTag, initTags_eq_filter, List.filter_append, List.reverse_append, ← initTags_eq_filter, ← initTags_eq_filter,
    lookupTag_append, lookupTag_eq_some (mem_initTags.mpr ⟨hm, hx⟩) fun t' ht' => hf t' (mem_initTags.mp ht').1]
  rfl

theorem getTag_initTags_append_none (A B : List (Fact × Nat)) (g : Fact) (h : ∀ x, (g, x) ∈ B → ¬ x < u64Max) :
    getTag expProv (initTags (A ++ B)) g = getTag expProv (initTags A) g := by
  rw [getTag, getTag, initTags_eq_filter (A ++ B), List.filter_append, List.reverse_append, ← initTags_eq_filter,
    ← initTags_eq_filter, lookupTag_append,
    lookupTag_eq_none fun t ht => h t (mem_initTags.mp ht).1 (mem_initTags.mp ht).2]
  rfl

/-- tag of a fact in a functional list: its expiry, capped at `u64::MAX` (entries ≥ MAX are not stored) -/
theorem le_getTag_initTags {A : List (Fact × Nat)} (hf : Functional A) (g : Fact) {τ : Nat} (hτ : τ ≤ u64Max) :
    τ ≤ getTag expProv (initTags A) g ↔ ∀ x, (g, x) ∈ A → τ ≤ x := by
  by_cases hex : ∃ x, (g, x) ∈ A ∧ x < u64Max
  · obtain ⟨x, hm, hx⟩ := hex
    rw [getTag, lookupTag_eq_some (mem_initTags.mpr ⟨hm, hx⟩) fun t' ht' => hf g t' x (mem_initTags.mp ht').1 hm]
    exact ⟨fun h y hy => hf g x y hm hy ▸ h, fun h => h x hm⟩
  · rw [getTag, lookupTag_eq_none fun t ht => hex ⟨t, mem_initTags.mp ht⟩]
    exact ⟨fun _ x hx => Nat.le_trans hτ (Nat.le_of_not_lt fun hlt => hex ⟨x, hx, hlt⟩), fun _ => hτ⟩

/-- `oldExpiry` is the largest recorded expiry: it lies below `e` exactly when every recorded expiry does -/
theorem oldExpiry_lt (l : List (Fact × Nat)) (g : Fact) (e : Nat) :
    (match oldExpiry l g with
      | none => true
      | some eo => decide (eo < e)) = true ↔ ∀ eo, (g, eo) ∈ l → eo < e := by
  have fold : ∀ (L : List (Fact × Nat)) (acc : Option Nat),
      (match L.foldl (fun acc e => match acc with
          | none => some e.2
          | some a => some (max a e.2)) acc with
        | none => true
        | some eo => decide (eo < e)) = true ↔
      (match acc with
        | none => true
        | some eo => decide (eo < e)) = true ∧ ∀ x ∈ L, x.2 < e := by
    intro L
    induction L with
    | nil => intro acc; exact ⟨fun h => ⟨h, fun _ hx => nomatch hx⟩, fun h => h.1⟩
    | cons a t ih =>
      intro acc
      rw [List.foldl_cons, ih, List.forall_mem_cons, ← and_assoc]
      refine and_congr_left fun _ => ?_
      cases acc with
      | none => exact ⟨fun h => ⟨rfl, of_decide_eq_true h⟩, fun h => decide_eq_true h.2⟩
      | some m =>
        exact ⟨fun h => have hm := Nat.max_lt.mp (of_decide_eq_true h); ⟨decide_eq_true hm.1, hm.2⟩,
          fun h => decide_eq_true (Nat.max_lt.mpr ⟨of_decide_eq_true h.1, h.2⟩)⟩
  refine (fold _ none).trans ?_
  simp only [true_and, List.mem_filter, beq_iff_eq, Prod.forall]
  exact ⟨fun h eo hm => h g eo ⟨hm, rfl⟩, fun h g' eo hm => h eo (hm.2 ▸ hm.1)⟩

theorem oldExpiry_none (l : List (Fact × Nat)) (g : Fact) (h : ∀ e ∈ l, e.1 ≠ g) : oldExpiry l g = none := by
  have := (oldExpiry_lt l g 0).mpr fun eo hm => absurd rfl (h _ hm)
  cases ho : oldExpiry l g with
  | none => rfl
  | some eo => rw [ho] at this; exact absurd (of_decide_eq_true this) (Nat.not_lt_zero eo)

theorem oldExpiry_some (l : List (Fact × Nat)) (hf : Functional l) (g : Fact) (x : Nat) (hm : (g, x) ∈ l) :
    oldExpiry l g = some x := by
  have hlt := (oldExpiry_lt l g (x + 1)).mpr fun eo ho => hf g eo x ho hm ▸ Nat.lt_succ_self x
  have hge := mt (oldExpiry_lt l g x).mp fun h => Nat.lt_irrefl x (h x hm)
  cases ho : oldExpiry l g with
  | none => rw [ho] at hge; exact absurd rfl hge
  | some eo =>
    rw [ho] at hlt hge
    exact congrArg some (Nat.le_antisymm (Nat.le_of_lt_succ (of_decide_eq_true hlt))
      (Nat.le_of_not_lt fun h => hge (decide_eq_true h)))

theorem exactAt_nil (rules : List Rule) (hne : ∀ r ∈ rules, r.prem ≠ []) (t : Nat) : ExactAt rules [] t [] :=
  ⟨fun _ _ _ h => (nomatch h), fun _ _ _ g => ⟨fun ⟨_, h, _⟩ => (nomatch h),
    fun h => absurd h (not_derivable_of_no_inputs hne (fun _ ⟨_, h, _⟩ => (nomatch h)) g)⟩⟩

/-- hypotheses relating two consecutive evaluations -/
structure StepHyp (rules : List Rule) (keep : Fact → Bool) (basePrev base prev : List (Fact × Nat))
    (tPrev now : Nat) : Prop where
  pos : ∀ r ∈ rules, r.neg = []
  safe : ∀ r ∈ rules, safeRule r = true
  nonempty : ∀ r ∈ rules, r.prem ≠ []
  time : tPrev ≤ now
  cons : consistentStep basePrev base now = true
  /-- static facts were already static at the previous evaluation (static graphs do not change) -/
  static : ∀ g, (g, u64Max) ∈ base → prev = [] ∨ (g, u64Max) ∈ basePrev
  keepP : ∀ f f' : Fact, f.p = f'.p → keep f = keep f'
  keepBase : ∀ e ∈ base, keep e.1 = true
  keepHeads : ∀ r ∈ rules, ∀ c ∈ r.concl, ∃ p, c.p = Term.const p ∧ keep ⟨0, p, 0⟩ = true

/-- the state handed to the engine by `incremental_sds_plus` satisfies the loop invariant: `dOld` is what is carried
    over from an exact previous state, `dNew` the base facts that are new or renewed, and the delta is `dNew` -/
theorem carry_inv {rules : List Rule} {keep : Fact → Bool} {basePrev base prev : List (Fact × Nat)} {tPrev now : Nat}
    (hyp : StepHyp rules keep basePrev base prev tPrev now) (hprev : ExactAt rules basePrev tPrev prev)
    {dOld dNew : List (Fact × Nat)} {facts : List Fact}
    (hOld : ∀ g e, (g, e) ∈ dOld ↔ (g, e) ∈ prev ∧ now < e)
    (hNew : ∀ g e, (g, e) ∈ dNew ↔ (g, e) ∈ base ∧ ∀ eo, (g, eo) ∈ dOld → eo < e)
    (hfacts : ∀ g, g ∈ facts ↔ (∃ e, (g, e) ∈ dOld) ∨ ∃ e, (g, e) ∈ dNew) :
    Inv (expSem now) rules (inputsB base) facts (dNew.map (·.1)) (initTags (dOld ++ dNew)) := by
  obtain ⟨hfb, halive, hcarry⟩ := consistentStep_iff.mp hyp.cons
  have hfOld : Functional dOld := fun g e e' h1 h2 =>
    hprev.functional g e e' ((hOld g e).mp h1).1 ((hOld g e').mp h2).1
  have hfNew : Functional dNew := fun g e e' h1 h2 => hfb g e e' ((hNew g e).mp h1).1 ((hNew g e').mp h2).1
  have hD : ∀ τ, now < τ ∧ τ ≤ u64Max → ∀ g,
      (∃ e, (g, e) ∈ dOld ∧ τ ≤ e) ↔ Derivable rules (inputsB basePrev τ) g := fun τ hτ g =>
    (exists_congr fun e => by rw [hOld, and_assoc, and_iff_right_of_imp (Nat.lt_of_lt_of_le hτ.1)]).trans
      (hprev.exact τ (Nat.lt_of_le_of_lt hyp.time hτ.1) hτ.2 g)
  have hcarryD : ∀ τ, now < τ → ∀ g, Derivable rules (inputsB basePrev τ) g → Derivable rules (inputsB base τ) g := by
    refine fun τ hτ g => Derivable.mono ?_
    rintro f ⟨e, he, hle⟩
    obtain ⟨⟨f', x⟩, he', rfl, h2⟩ := hcarry (f, e) he (Nat.lt_of_lt_of_le hτ hle)
    exact ⟨x, he', Nat.le_trans hle h2⟩
  -- at a threshold above `now`, the start state holds a fact exactly when it has a new entry that high or was
  -- derivable at that threshold at the previous evaluation (i.e. has a carried entry that high)
  have hheld : ∀ τ, now < τ ∧ τ ≤ u64Max → ∀ g,
      (g ∈ facts ∧ τ ≤ getTag expProv (initTags (dOld ++ dNew)) g ↔
        (∃ e, (g, e) ∈ dNew ∧ τ ≤ e) ∨ Derivable rules (inputsB basePrev τ) g) := by
    intro τ hτ g
    rw [← hD τ hτ g]
    by_cases hnew : ∃ e, (g, e) ∈ dNew
    · -- a new entry is stored over the carried ones, which all expire earlier
      obtain ⟨e, hm⟩ := hnew
      obtain ⟨hb, hlt⟩ := (hNew g e).mp hm
      have htagNew : τ ≤ getTag expProv (initTags (dOld ++ dNew)) g ↔ τ ≤ e := by
        by_cases hx : e < u64Max
        · rw [getTag_initTags_append_some dOld dNew g e hx hm fun e' he' => hfNew g e' e he' hm]
        · -- an entry at `u64::MAX` is not stored; it is a static fact, which has no carried entry below `u64::MAX`
          have he : e = u64Max := Nat.le_antisymm (halive _ hb).2 (Nat.le_of_not_lt hx)
          subst he
          rw [getTag_initTags_append_none dOld dNew g fun x hx' => (hfNew g x _ hx' hm).symm ▸ hx,
            le_getTag_initTags hfOld g hτ.2]
          refine ⟨fun _ => hτ.2, fun _ x hxo => absurd (hlt x hxo) ?_⟩
          rcases hyp.static g hb with hnil | hst
          · exact absurd ((hOld g x).mp hxo).1 (hnil ▸ List.not_mem_nil)
          · obtain ⟨e', he', hle'⟩ := (hD u64Max ⟨(halive _ hb).1, Nat.le_refl _⟩ g).mpr
              (Derivable.base ⟨u64Max, hst, Nat.le_refl _⟩)
            exact hfOld g e' x he' hxo ▸ Nat.not_lt.mpr hle'
      rw [htagNew, and_iff_right ((hfacts g).mpr (Or.inr ⟨e, hm⟩))]
      refine ⟨fun h => Or.inl ⟨e, hm, h⟩, ?_⟩
      rintro (⟨e', hm', h⟩ | ⟨eo, ho, h⟩)
      · exact hfNew g e' e hm' hm ▸ h
      · exact Nat.le_trans h (Nat.le_of_lt (hlt eo ho))
    · rw [getTag_initTags_append_none dOld dNew g fun x hx' => absurd ⟨x, hx'⟩ hnew, le_getTag_initTags hfOld g hτ.2]
      constructor
      · rintro ⟨hg, h⟩
        obtain ⟨eo, heo⟩ := ((hfacts g).mp hg).resolve_right hnew
        exact Or.inr ⟨eo, heo, h eo heo⟩
      · rintro (⟨e, he, _⟩ | ⟨e, he, hle⟩)
        · exact absurd ⟨e, he⟩ hnew
        · exact ⟨(hfacts g).mpr (Or.inl ⟨e, he⟩), fun x hx => hfOld g e x he hx ▸ hle⟩
  refine ⟨fun g hg τ hτ hsem => ?_, fun g hg => ?_, fun τ hτ g ⟨e, hb, hle⟩ => (hheld τ hτ g).mpr ?_,
    fun r hr σ hall => ?_⟩
  · rcases (hheld τ hτ g).mp ⟨hg, hsem⟩ with ⟨e, he, hle⟩ | hold
    · exact Derivable.base ⟨e, ((hNew g e).mp he).1, hle⟩
    · exact hcarryD τ hτ.1 g hold
  · obtain ⟨⟨g', e⟩, hm, rfl⟩ := List.mem_map.mp hg
    exact (hfacts _).mpr (Or.inr ⟨e, hm⟩)
  · -- a base entry is new unless a carried entry lasts at least as long
    by_cases hdom : ∀ eo, (g, eo) ∈ dOld → eo < e
    · exact Or.inl ⟨e, (hNew g e).mpr ⟨hb, hdom⟩, hle⟩
    · obtain ⟨eo, hx⟩ := Classical.not_forall.mp hdom
      exact Or.inr ((hD τ hτ g).mp
        ⟨eo, (Classical.not_imp.mp hx).1, Nat.le_trans hle (Nat.le_of_not_lt (Classical.not_imp.mp hx).2)⟩)
  · -- if all premises are carried facts, the instance fired at the previous evaluation and its head is carried too
    refine Classical.or_iff_not_imp_left.mpr fun hpend τ hτ hsem c hc =>
      (hheld τ hτ _).mpr (Or.inr (Derivable.rule hr (fun p hp => ?_) hc))
    exact ((hheld τ hτ _).mp ⟨hall p hp, hsem p hp⟩).resolve_left
      fun ⟨e, he, _⟩ => hpend ⟨p, hp, List.mem_map.mpr ⟨_, he, rfl⟩⟩

/-- what `incStep` runs: the engine over the carried entries `dOld` and the new or renewed base entries `dNew`, with
    `dNew` as delta; the result lists the kept facts with their final tags -/
theorem incStep_eq_some {rules : List Rule} {keep : Fact → Bool} {base prev : List (Fact × Nat)} {now fuel : Nat}
    {out : List (Fact × Nat)} (hpos : ∀ r ∈ rules, r.neg = [])
    (h : incStep rules keep base prev now fuel = some out) :
    ∃ (dOld dNew : List (Fact × Nat)) (facts all : List Fact) (tags : Tags Nat),
      (∀ g e, (g, e) ∈ dOld ↔ (g, e) ∈ prev ∧ now < e) ∧
      (∀ g e, (g, e) ∈ dNew ↔ (g, e) ∈ base ∧ ∀ eo, (g, eo) ∈ dOld → eo < e) ∧
      (∀ g, g ∈ facts ↔ (∃ e, (g, e) ∈ dOld) ∨ ∃ e, (g, e) ∈ dNew) ∧
      iter expProv rules fuel facts (dNew.map (·.1)) (initTags (dOld ++ dNew)) = some (all, tags) ∧
      ∀ g e, (g, e) ∈ out ↔ g ∈ all ∧ keep g = true ∧ e = getTag expProv tags g := by
  unfold incStep at h
  rw [show rules.filter (·.neg.isEmpty) = rules from
    List.filter_eq_self.mpr fun r hr => List.isEmpty_iff.mpr (hpos r hr)] at h
  dsimp only at h
  generalize hit : iter expProv rules fuel _ _ _ = res at h
  cases res with
  | none => cases h
  | some res =>
    cases h
    refine ⟨_, _, _, res.1, res.2, fun g e => ?_, fun g e => ?_, fun g => ?_, hit, fun g e => ?_⟩
    · rw [List.mem_filter, decide_eq_true_eq]
    · exact List.mem_filter.trans (and_congr_right fun _ => oldExpiry_lt _ g e)
    · simp only [List.mem_eraseDups, List.mem_append, List.mem_map, Prod.exists, exists_and_right, exists_eq_right]
    · simp only [List.mem_map, List.mem_filter, List.mem_eraseDups, Prod.mk.injEq]
      constructor
      · rintro ⟨_, ⟨h1, h2⟩, rfl, rfl⟩; exact ⟨h1, h2, rfl⟩
      · rintro ⟨h1, h2, rfl⟩; exact ⟨g, ⟨h1, h2⟩, rfl, rfl⟩

theorem incStep_exact (rules : List Rule) (keep : Fact → Bool) (basePrev base prev : List (Fact × Nat))
    (tPrev now fuel : Nat) (out : List (Fact × Nat))
    (hyp : StepHyp rules keep basePrev base prev tPrev now)
    (hprev : ExactAt rules basePrev tPrev prev)
    (h : incStep rules keep base prev now fuel = some out) :
    ExactAt rules base now out ∧ ∀ e ∈ out, keep e.1 = true := by
  obtain ⟨dOld, dNew, facts, all, tags, hOld, hNew, hfacts, hit, hout⟩ := incStep_eq_some hyp.pos h
  obtain ⟨hsound, hcomp, _⟩ :=
    iter_exact (expSem now) hyp.safe fuel _ _ _ all tags (carry_inv hyp hprev hOld hNew hfacts) hit
  -- everything derivable carries a component prefix, so the final filter drops nothing derivable
  have hkeepD : ∀ τ g, Derivable rules (inputsB base τ) g → keep g = true := by
    intro τ g hd
    cases hd with
    | base hb => obtain ⟨e, he, _⟩ := hb; exact hyp.keepBase _ he
    | @rule r σ c hr _ hc =>
      obtain ⟨p, hp, hk⟩ := hyp.keepHeads r hr c hc
      rw [hyp.keepP (instV σ c) ⟨0, p, 0⟩ (by rw [instV, hp]; rfl)]; exact hk
  refine ⟨⟨fun g e e' h1 h2 => ?_, fun τ hτ1 hτ2 g => ⟨fun ⟨e, hm, hle⟩ => ?_, fun hd => ?_⟩⟩,
    fun ⟨g, x⟩ he => ?_⟩
  · rw [((hout g e).mp h1).2.2, ((hout g e').mp h2).2.2]
  · obtain ⟨hga, _, rfl⟩ := (hout g e).mp hm
    exact hsound g hga τ ⟨hτ1, hτ2⟩ hle
  · obtain ⟨hga, hs⟩ := hcomp τ ⟨hτ1, hτ2⟩ g hd
    exact ⟨_, (hout g _).mpr ⟨hga, hkeepD τ g hd, rfl⟩, hs⟩
  · exact ((hout g x).mp he).2.1

end Kolibrie.Prov
