import Kolibrie.Model.Repairs
import Kolibrie.Spec.Repairs
/-! Pattern matching and joins against a ground valuation, and the two consistency tests (C19).

    Each matching or joining function is described by the valuations that agree with one of its results:
    `(∃ b', … = some b' ∧ Agrees σ b') ↔ Agrees σ b ∧ …` for a match, `(∃ b' ∈ …, Agrees σ b') ↔ ∃ b ∈ rs, Agrees σ b ∧ …`
    for a join.  Statements of this shape compose, from `matchTerm` up to `joinRule`. -/
namespace Kolibrie.Repairs
open Kolibrie.Terms Kolibrie.RepairSpec

/-! ### pattern matching against a valuation -/

def Agrees (σ : String → Nat) (b : Binding) : Prop := ∀ v x, lookup v b = some x → σ v = x

def valOf (b : Binding) : String → Nat := fun v => (lookup v b).getD 0

theorem agrees_valOf (b : Binding) : Agrees (valOf b) b :=
  fun v x h => by rw [valOf, h, Option.getD_some]

theorem agrees_nil (σ : String → Nat) : Agrees σ [] := fun _ _ h => nomatch h

theorem lookup_cons (v w : String) (x : Nat) (b : Binding) :
    lookup v ((w, x) :: b) = if v = w then some x else lookup v b := rfl

theorem agrees_cons {σ v x b} (hn : lookup v b = none) : Agrees σ ((v, x) :: b) ↔ σ v = x ∧ Agrees σ b := by
  constructor
  · intro h
    refine ⟨h v x (if_pos rfl), fun w z hw => h w z ?_⟩
    have hwv : w ≠ v := fun e => by rw [e, hn] at hw; cases hw
    exact (if_neg hwv).trans hw
  · rintro ⟨hv, ha⟩ w z hw
    rw [lookup_cons] at hw
    by_cases e : w = v
    · rw [if_pos e] at hw; cases hw; cases e; exact hv
    · rw [if_neg e] at hw; exact ha w z hw

theorem matchTerm_agrees {σ t x b} :
    (∃ b', matchTerm t x b = some b' ∧ Agrees σ b') ↔ Agrees σ b ∧ t.eval σ = x := by
  -- the two ways to keep `b`: the test `y = x` passes, where `y` is the value of the term under any such `σ`
  have keep : ∀ y, (Agrees σ b → t.eval σ = y) →
      ((∃ b', (if y = x then some b else none) = some b' ∧ Agrees σ b') ↔ Agrees σ b ∧ t.eval σ = x) := by
    intro y hy
    by_cases h : y = x
    · rw [if_pos h]
      exact ⟨fun ⟨_, e, ha⟩ => by cases e; exact ⟨ha, (hy ha).trans h⟩, fun ⟨ha, _⟩ => ⟨b, rfl, ha⟩⟩
    · rw [if_neg h]
      exact ⟨fun ⟨_, e, _⟩ => (nomatch e), fun ⟨ha, e⟩ => absurd ((hy ha).symm.trans e) h⟩
  cases t with
  | const c => exact keep c fun _ => rfl
  | var v =>
    unfold matchTerm
    dsimp only
    cases hl : lookup v b with
    | some y => exact keep y fun ha => ha v y hl
    | none =>
      refine ⟨fun ⟨_, e, ha⟩ => ?_, fun ⟨ha, e⟩ => ⟨_, rfl, (agrees_cons hl).2 ⟨e, ha⟩⟩⟩
      cases e
      exact ((agrees_cons hl).1 ha).symm

theorem matchPat_eq_some {q f b b'} : matchPat q f b = some b' ↔
    ∃ b1 b2, matchTerm q.s f.s b = some b1 ∧ matchTerm q.p f.p b1 = some b2 ∧ matchTerm q.o f.o b2 = some b' := by
  unfold matchPat
  constructor
  · intro h
    cases h1 : matchTerm q.s f.s b with
    | none => rw [h1] at h; cases h
    | some b1 =>
      cases h2 : matchTerm q.p f.p b1 with
      | none => simp only [h1, h2] at h; cases h
      | some b2 => exact ⟨b1, b2, rfl, h2, by simpa only [h1, h2] using h⟩
  · rintro ⟨b1, b2, h1, h2, h3⟩
    simp only [h1, h2, h3]

theorem matchPat_agrees {σ q f b} :
    (∃ b', matchPat q f b = some b' ∧ Agrees σ b') ↔ Agrees σ b ∧ q.inst σ = f := by
  constructor
  · rintro ⟨b', h, ha⟩
    obtain ⟨b1, b2, h1, h2, h3⟩ := matchPat_eq_some.1 h
    obtain ⟨a2, e3⟩ := matchTerm_agrees.1 ⟨b', h3, ha⟩
    obtain ⟨a1, e2⟩ := matchTerm_agrees.1 ⟨b2, h2, a2⟩
    obtain ⟨a0, e1⟩ := matchTerm_agrees.1 ⟨b1, h1, a1⟩
    exact ⟨a0, by rw [Pattern.inst, e1, e2, e3]⟩
  · rintro ⟨ha, rfl⟩
    obtain ⟨b1, h1, a1⟩ := matchTerm_agrees.2 ⟨ha, rfl⟩
    obtain ⟨b2, h2, a2⟩ := matchTerm_agrees.2 ⟨a1, rfl⟩
    obtain ⟨b3, h3, a3⟩ := matchTerm_agrees.2 ⟨a2, rfl⟩
    exact ⟨b3, matchPat_eq_some.2 ⟨b1, b2, h1, h2, h3⟩, a3⟩

theorem matchPat_inj {q f f' b} (h : matchPat q f [] = some b) (h' : matchPat q f' [] = some b) : f = f' :=
  (matchPat_agrees.1 ⟨b, h, agrees_valOf b⟩).2.symm.trans (matchPat_agrees.1 ⟨b, h', agrees_valOf b⟩).2

/-! ### joins -/

theorem join_agrees {σ} {all : List Fact} {p : Pattern} {rs : List Binding} :
    (∃ b' ∈ rs.flatMap (fun pb => all.filterMap fun f => matchPat p f pb), Agrees σ b') ↔
      ∃ b ∈ rs, Agrees σ b ∧ p.inst σ ∈ all := by
  simp only [List.mem_flatMap, List.mem_filterMap]
  constructor
  · rintro ⟨b', ⟨pb, hpb, f, hf, hm⟩, ha⟩
    obtain ⟨ha', rfl⟩ := matchPat_agrees.1 ⟨b', hm, ha⟩
    exact ⟨pb, hpb, ha', hf⟩
  · rintro ⟨pb, hpb, ha, hf⟩
    obtain ⟨b', hm, ha'⟩ := matchPat_agrees.2 ⟨ha, rfl⟩
    exact ⟨b', ⟨pb, hpb, _, hf, hm⟩, ha'⟩

theorem joinRem_agrees {σ all i} {ps : List Pattern} : ∀ {j : Nat} {rs : List Binding},
    (∃ b' ∈ joinRem all ps j i rs, Agrees σ b') ↔
      ∃ b ∈ rs, Agrees σ b ∧ ∀ x ∈ ps.zipIdx j, x.2 ≠ i → x.1.inst σ ∈ all := by
  induction ps with
  | nil => exact ⟨fun ⟨b, hb, ha⟩ => ⟨b, hb, ha, fun _ h => nomatch h⟩, fun ⟨b, hb, ha, _⟩ => ⟨b, hb, ha⟩⟩
  | cons p ps ih =>
    intro j rs
    unfold joinRem
    simp only [List.zipIdx_cons, List.forall_mem_cons]
    by_cases hji : j = i
    · rw [if_pos hji, ih]
      exact exists_congr fun b => and_congr_right fun _ => and_congr_right fun _ =>
        (and_iff_right fun h => absurd hji h).symm
    · rw [if_neg hji, ih]
      constructor
      · rintro ⟨b', hb', ha', hrest⟩
        obtain ⟨b, hb, ha, hp⟩ := join_agrees.1 ⟨b', hb', ha'⟩
        exact ⟨b, hb, ha, fun _ => hp, hrest⟩
      · rintro ⟨b, hb, ha, hp, hrest⟩
        obtain ⟨b', hb', ha'⟩ := join_agrees.2 ⟨b, hb, ha, hp hji⟩
        exact ⟨b', hb', ha', hrest⟩

theorem joinRule_agrees {σ} {prem : List Pattern} {all delta : List Fact} :
    (∃ b ∈ joinRule prem all delta, Agrees σ b) ↔
      ∃ (i : Nat) (p : Pattern), prem[i]? = some p ∧ p.inst σ ∈ delta ∧
        ∀ (k : Nat) (p' : Pattern), prem[k]? = some p' → k ≠ i → p'.inst σ ∈ all := by
  unfold joinRule
  simp only [List.mem_flatMap, List.mem_range]
  constructor
  · rintro ⟨b', ⟨i, _, f, hf, hb'⟩, ha⟩
    cases hp : prem[i]? with
    | none => rw [hp] at hb'; cases hb'
    | some p =>
      cases hm : matchPat p f [] with
      | none => simp only [hp, hm] at hb'; cases hb'
      | some b =>
        simp only [hp, hm] at hb'
        obtain ⟨b0, hb0, ha0, hrest⟩ := joinRem_agrees.1 ⟨b', hb', ha⟩
        cases List.mem_singleton.1 hb0
        obtain ⟨_, rfl⟩ := matchPat_agrees.1 ⟨b, hm, ha0⟩
        exact ⟨i, p, hp, hf, fun k p' hk => hrest (p', k) (List.mk_mem_zipIdx_iff_getElem?.2 hk)⟩
  · rintro ⟨i, p, hp, hpd, hrest⟩
    obtain ⟨b, hm, ha⟩ := (matchPat_agrees (q := p)).2 ⟨agrees_nil σ, rfl⟩
    obtain ⟨b', hb', ha'⟩ := (joinRem_agrees (i := i) (j := 0)).2 ⟨b, List.mem_singleton.2 rfl, ha,
      fun x hx => hrest x.2 x.1 (List.mem_zipIdx_iff_getElem?.1 hx)⟩
    exact ⟨b', ⟨i, (List.getElem?_eq_some_iff.1 hp).1, p.inst σ, hpd, by simp only [hp, hm]; exact hb'⟩, ha'⟩

/-! ### the consistency tests -/

theorem violates_iff (C : List (List Pattern)) (S : List Fact) : violates C S = true ↔ Violated C S := by
  simp only [violates, List.any_eq_true, Bool.not_eq_true', Violated, List.isEmpty_eq_false_iff_exists_mem]
  refine exists_congr fun c => and_congr_right fun _ => ?_
  constructor
  · rintro ⟨b, hb⟩
    obtain ⟨i, p, hp, hpS, hrest⟩ := joinRule_agrees.1 ⟨b, hb, agrees_valOf b⟩
    refine ⟨fun h => (by rw [h] at hp; cases hp), valOf b, fun p' hp' => ?_⟩
    obtain ⟨k, hk⟩ := List.getElem?_of_mem hp'
    by_cases hki : k = i
    · rw [hki, hp] at hk; cases hk; exact hpS
    · exact hrest k p' hk hki
  · rintro ⟨hne, σ, hall⟩
    obtain ⟨p, ps, rfl⟩ := List.exists_cons_of_ne_nil hne
    obtain ⟨b, hb, _⟩ := joinRule_agrees.2 ⟨0, p, rfl, hall p List.mem_cons_self,
      fun k p' hk _ => hall p' (List.mem_of_getElem? hk)⟩
    exact ⟨b, hb⟩

theorem solve_iff (S : List Fact) {ps : List Pattern} : ∀ b : Binding,
    solve S ps b = true ↔ ∃ σ, Agrees σ b ∧ ∀ p ∈ ps, p.inst σ ∈ S := by
  induction ps with
  | nil => exact fun b => ⟨fun _ => ⟨valOf b, agrees_valOf b, fun _ h => nomatch h⟩, fun _ => rfl⟩
  | cons p ps ih =>
    intro b
    simp only [solve, List.any_eq_true, List.forall_mem_cons]
    constructor
    · rintro ⟨f, hf, h⟩
      cases hm : matchPat p f b with
      | none => rw [hm] at h; cases h
      | some b' =>
        rw [hm] at h
        obtain ⟨σ, ha, hall⟩ := (ih b').1 h
        obtain ⟨hab, rfl⟩ := matchPat_agrees.1 ⟨b', hm, ha⟩
        exact ⟨σ, hab, hf, hall⟩
    · rintro ⟨σ, ha, hp, hall⟩
      obtain ⟨b', hm, ha'⟩ := matchPat_agrees.2 ⟨ha, rfl⟩
      exact ⟨p.inst σ, hp, by rw [hm]; exact (ih b').2 ⟨σ, ha', hall⟩⟩

theorem specViolates_iff (C : List (List Pattern)) (S : List Fact) : specViolates C S = true ↔ Violated C S := by
  simp only [specViolates, List.any_eq_true, Bool.and_eq_true, Bool.not_eq_true', List.isEmpty_eq_false_iff, Violated]
  refine exists_congr fun c => and_congr_right fun _ => and_congr_right fun _ => ?_
  rw [solve_iff]
  exact exists_congr fun σ => and_iff_right (agrees_nil σ)

theorem violates_eq_spec (C : List (List Pattern)) (S : List Fact) : violates C S = specViolates C S := by
  rw [Bool.eq_iff_iff, violates_iff, specViolates_iff]

theorem setInv_violates (C : List (List Pattern)) : SetInv (violates C) := by
  intro A B h
  rw [Bool.eq_iff_iff, violates_iff, violates_iff]
  simp only [Violated, h]

theorem violates_nil (C : List (List Pattern)) : violates C [] = false := by
  rw [Bool.eq_false_iff, Ne, violates_iff]
  rintro ⟨c, _, hne, σ, hall⟩
  obtain ⟨p, ps, rfl⟩ := List.exists_cons_of_ne_nil hne
  exact nomatch hall p List.mem_cons_self

end Kolibrie.Repairs
