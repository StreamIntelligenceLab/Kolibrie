import Kolibrie.Lemmas.SldRename
/-! The SLD helper (C18): soundness; and, as one invariant of a run (`Good`), the naming frame (the counter grows,
    names stay known) together with completeness.

    `solveEach`, `tryConclusions` and `tryRules` all run a one-element step over a list, threading the counter and
    appending the answers.  That loop is `collect`; soundness (`mem_collect`) and the invariant (`collect_good`) are
    proved once for `collect` and once for each one-element step (`rec p`, `tryConclusion`, `tryRule`). -/
namespace Kolibrie.Sld
open Kolibrie.Terms Kolibrie.SldSpec

def collect {α : Type} (f : α → Nat → List Subst × Nat) : List α → Nat → List Subst × Nat
  | [], c => ([], c)
  | x :: xs, c => ((f x c).1 ++ (collect f xs (f x c).2).1, (collect f xs (f x c).2).2)

/-- the body of the loop of `tryConclusions` -/
def tryConclusion (rec : Rec) (sub : Pattern) (b : Subst) (prems : List Pattern) (concl : Pattern) (c : Nat) :
    List Subst × Nat :=
  match unifyPatterns concl sub b with
  | none => ([], c)
  | some rb => solvePremises rec prems [rb] c

/-- the body of the loop of `tryRules` -/
def tryRule (rec : Rec) (reserved : List String) (sub : Pattern) (b : Subst) (rule : Rule) (c : Nat) :
    List Subst × Nat :=
  tryConclusions rec sub b (renameRule reserved rule c).1.premise (renameRule reserved rule c).1.conclusion
    (renameRule reserved rule c).2

theorem solveEach_eq (rec : Rec) (p : Pattern) (bs : List Subst) :
    ∀ c, solveEach rec p bs c = collect (rec p) bs c := by
  induction bs with
  | nil => exact fun _ => rfl
  | cons b bs ih => intro c; simp only [solveEach, collect, ih]

theorem solvePremises_cons (rec : Rec) (p : Pattern) (ps : List Pattern) (bs : List Subst) (c : Nat) :
    solvePremises rec (p :: ps) bs c = solvePremises rec ps (solveEach rec p bs c).1 (solveEach rec p bs c).2 := rfl

theorem tryConclusions_eq (rec : Rec) (sub : Pattern) (b : Subst) (prems cs : List Pattern) :
    ∀ c, tryConclusions rec sub b prems cs c = collect (tryConclusion rec sub b prems) cs c := by
  induction cs with
  | nil => exact fun _ => rfl
  | cons concl cs ih =>
    intro c
    simp only [tryConclusions, collect, tryConclusion]
    cases unifyPatterns concl sub b with
    | none => simp only [List.nil_append, ih]
    | some rb => simp only [ih]

theorem tryRules_eq (rec : Rec) (reserved : List String) (sub : Pattern) (b : Subst) (rs : List Rule) :
    ∀ c, tryRules rec reserved sub b rs c = collect (tryRule rec reserved sub b) rs c := by
  induction rs with
  | nil => exact fun _ => rfl
  | cons r rs ih => intro c; simp only [tryRules, collect, tryRule, ih]

variable {α : Type} {f : α → Nat → List Subst × Nat} {reserved : List String}

theorem mem_collect {b' : Subst} {xs : List α} : ∀ {c : Nat}, b' ∈ (collect f xs c).1 →
    ∃ x ∈ xs, ∃ c', b' ∈ (f x c').1 := by
  induction xs with
  | nil => exact fun h => nomatch h
  | cons x xs ih =>
    intro c h
    rcases List.mem_append.1 h with h | h
    · exact ⟨x, List.mem_cons_self, c, h⟩
    · obtain ⟨x', hx', h'⟩ := ih h
      exact ⟨x', List.mem_cons_of_mem _ hx', h'⟩

/-- A run from counter `c` is good for the valuations in `Φ`: the counter does not go down, the answers only use
    names known at the new counter, and for every valuation in `Φ` some answer has a solution that agrees with it
    on all names known at `c`. -/
structure Good (reserved : List String) (c : Nat) (Φ : (String → Nat) → Prop) (r : List Subst × Nat) : Prop where
  le : c ≤ r.2
  known : ∀ b' ∈ r.1, SubstKnown reserved r.2 b'
  finds : ∀ σ, Φ σ → ∃ b' ∈ r.1, ∃ σ', Sat σ' b' ∧ AgreeOn reserved c σ σ'

/-- The loop is good for what any of its steps is good for, whatever the counter is when that step runs: the steps
    before it only let the counter grow, and agreement at a later counter is agreement at an earlier one. -/
theorem collect_good {Φ : α → (String → Nat) → Prop} {xs : List α} : ∀ {c : Nat},
    (∀ x ∈ xs, ∀ c', c ≤ c' → Good reserved c' (Φ x) (f x c')) →
    Good reserved c (fun σ => ∃ x ∈ xs, Φ x σ) (collect f xs c) := by
  induction xs with
  | nil => exact fun _ => ⟨Nat.le_refl _, fun _ h => (nomatch h), fun _ ⟨_, h, _⟩ => nomatch h⟩
  | cons x xs ih =>
    intro c h
    have g1 := h x List.mem_cons_self c (Nat.le_refl c)
    have g2 := ih (c := (f x c).2) fun x' hx' c' hc' =>
      h x' (List.mem_cons_of_mem _ hx') c' (Nat.le_trans g1.le hc')
    refine ⟨Nat.le_trans g1.le g2.le, fun b' hb' => ?_, ?_⟩
    · rcases List.mem_append.1 hb' with hb' | hb'
      · exact (g1.known b' hb').mono g2.le
      · exact g2.known b' hb'
    · rintro σ ⟨x', hx', hΦ⟩
      rcases List.mem_cons.1 hx' with rfl | hx'
      · obtain ⟨b', hb', h⟩ := g1.finds σ hΦ
        exact ⟨b', List.mem_append_left _ hb', h⟩
      · obtain ⟨b', hb', σ', hs', ha⟩ := g2.finds σ ⟨x', hx', hΦ⟩
        exact ⟨b', List.mem_append_right _ hb', σ', hs', ha.weaken g1.le⟩

variable {F : List Fact} {P : List Rule} {rec : Rec}

/-! ### soundness -/

def RecSound (F : List Fact) (P : List Rule) (rec : Rec) : Prop :=
  ∀ q b c b', b' ∈ (rec q b c).1 → ∀ σ, Sat σ b' → Sat σ b ∧ Derivable F P (q.inst σ)

theorem solvePremises_sound (hr : RecSound F P rec) {b' : Subst} {σ : String → Nat} (hs : Sat σ b')
    {ps : List Pattern} : ∀ {bs : List Subst} {c : Nat}, b' ∈ (solvePremises rec ps bs c).1 →
      ∃ b ∈ bs, Sat σ b ∧ ∀ p ∈ ps, Derivable F P (p.inst σ) := by
  induction ps with
  | nil => exact fun h => ⟨b', h, hs, fun _ hp => nomatch hp⟩
  | cons p ps ih =>
    intro bs c h
    rw [solvePremises_cons, solveEach_eq] at h
    obtain ⟨b1, hb1, hs1, hrest⟩ := ih h
    obtain ⟨b0, hb0, c', hb1⟩ := mem_collect hb1
    obtain ⟨hs0, hp⟩ := hr p b0 c' b1 hb1 σ hs1
    exact ⟨b0, hb0, hs0, List.forall_mem_cons.2 ⟨hp, hrest⟩⟩

theorem tryConclusion_sound (hr : RecSound F P rec) {sub concl : Pattern} {b b' : Subst} {prems : List Pattern}
    {c : Nat} {σ : String → Nat} (h : b' ∈ (tryConclusion rec sub b prems concl c).1) (hs : Sat σ b') :
    Sat σ b ∧ concl.inst σ = sub.inst σ ∧ ∀ p ∈ prems, Derivable F P (p.inst σ) := by
  unfold tryConclusion at h
  cases hu : unifyPatterns concl sub b with
  | none => rw [hu] at h; cases h
  | some rb =>
    rw [hu] at h
    obtain ⟨b0, hb0, hs0, hall⟩ := solvePremises_sound hr hs h
    cases List.mem_singleton.1 hb0
    obtain ⟨hsb, heq⟩ := (sat_unifyPatterns hu).1 hs0
    exact ⟨hsb, heq, hall⟩

/-- an answer found through a rule of the program is an instance of that rule: read the renamed rule back through
    the variable map -/
theorem tryRule_sound (hr : RecSound F P rec) {sub : Pattern} {b b' : Subst} {r : Rule} {c : Nat} {σ : String → Nat}
    (hP : r ∈ P) (h : b' ∈ (tryRule rec reserved sub b r c).1) (hs : Sat σ b') :
    Sat σ b ∧ Derivable F P (sub.inst σ) := by
  obtain ⟨st, _, he, _⟩ := renameRule_fresh reserved r c
  rw [tryRule, he, tryConclusions_eq] at h
  obtain ⟨concl, hc, _, h⟩ := mem_collect h
  obtain ⟨c0, hc0, rfl⟩ := List.mem_map.1 hc
  obtain ⟨hsb, heq, hall⟩ := tryConclusion_sound hr h hs
  refine ⟨hsb, ?_⟩
  rw [← heq, applyMapP_inst]
  refine Derivable.rule _ hP hc0 fun p hp => ?_
  rw [← applyMapP_inst]
  exact hall _ (List.mem_map_of_mem hp)

theorem bcStep_sound (hr : RecSound F P rec) (reserved : List String) : RecSound F P (bcStep reserved F P rec) := by
  intro q b c b' h σ hs
  simp only [bcStep, List.mem_append, List.mem_filterMap] at h
  rcases h with ⟨f, hf, hu⟩ | h
  · obtain ⟨hsb, heq⟩ := (sat_unifyPatterns hu).1 hs
    refine ⟨hsb, ?_⟩
    rw [← substitute_inst hsb q, heq]
    exact Derivable.fact hf
  · rw [tryRules_eq] at h
    obtain ⟨r, hP, _, h⟩ := mem_collect h
    obtain ⟨hsb, hd⟩ := tryRule_sound hr hP h hs
    exact ⟨hsb, substitute_inst hsb q ▸ hd⟩

theorem bcAux_sound (F : List Fact) (P : List Rule) (reserved : List String) (n : Nat) :
    RecSound F P (bcAux reserved F P n) := by
  induction n with
  | zero => exact fun _ _ _ _ h => nomatch h
  | succ n ih => exact bcStep_sound ih reserved

/-! ### naming frame and completeness -/

def Below (F : List Fact) (P : List Rule) (m : Nat) (f : Fact) : Prop := ∃ n, n < m ∧ DerivableD F P n f

def RecGood (reserved : List String) (F : List Fact) (P : List Rule) (m : Nat) (rec : Rec) : Prop :=
  ∀ q b c, SubstKnown reserved c b → PatKnown reserved c q →
    Good reserved c (fun σ => Sat σ b ∧ Below F P m (q.inst σ)) (rec q b c)

section
variable {m : Nat} (hg : RecGood reserved F P m rec)
include hg

theorem solveEach_good {p : Pattern} {bs : List Subst} {c : Nat} (hbs : ∀ b ∈ bs, SubstKnown reserved c b)
    (hp : PatKnown reserved c p) :
    Good reserved c (fun σ => ∃ b ∈ bs, Sat σ b ∧ Below F P m (p.inst σ)) (solveEach rec p bs c) := by
  rw [solveEach_eq]
  exact collect_good fun b hb c' hc' => hg p b c' ((hbs b hb).mono hc') (hp.mono hc')

/-- each premise may move the valuation on newly generated names only, so the remaining premises, whose names are
    known already, keep their instances -/
theorem solvePremises_good {ps : List Pattern} : ∀ {bs : List Subst} {c : Nat},
    (∀ b ∈ bs, SubstKnown reserved c b) → (∀ p ∈ ps, PatKnown reserved c p) →
    Good reserved c (fun σ => ∃ b ∈ bs, Sat σ b ∧ ∀ p ∈ ps, Below F P m (p.inst σ)) (solvePremises rec ps bs c) := by
  induction ps with
  | nil => exact fun hbs _ => ⟨Nat.le_refl _, hbs, fun σ ⟨b, hb, hs, _⟩ => ⟨b, hb, σ, hs, AgreeOn.refl _ _⟩⟩
  | cons p ps ih =>
    intro bs c hbs hps
    have g1 := solveEach_good hg hbs (hps p List.mem_cons_self)
    have g2 := ih g1.known fun p' hp' => (hps p' (List.mem_cons_of_mem _ hp')).mono g1.le
    rw [solvePremises_cons]
    refine ⟨Nat.le_trans g1.le g2.le, g2.known, fun σ ⟨b0, hb0, hs, hd⟩ => ?_⟩
    obtain ⟨b1, hb1, σ1, hs1, ha1⟩ := g1.finds σ ⟨b0, hb0, hs, hd p List.mem_cons_self⟩
    obtain ⟨b', hb', σ', hs', ha'⟩ := g2.finds σ1 ⟨b1, hb1, hs1, fun p' hp' =>
      inst_agree ha1 (hps p' (List.mem_cons_of_mem _ hp')) ▸ hd p' (List.mem_cons_of_mem _ hp')⟩
    exact ⟨b', hb', σ', hs', AgreeOn.trans g1.le ha1 ha'⟩

variable {sub : Pattern} {b : Subst} {c : Nat} (hb : SubstKnown reserved c b) (hsub : PatKnown reserved c sub)
include hb hsub

theorem tryConclusion_good {prems : List Pattern} {concl : Pattern} (hps : ∀ p ∈ prems, PatKnown reserved c p)
    (hcl : PatKnown reserved c concl) :
    Good reserved c (fun σ => Sat σ b ∧ concl.inst σ = sub.inst σ ∧ ∀ p ∈ prems, Below F P m (p.inst σ))
      (tryConclusion rec sub b prems concl c) := by
  unfold tryConclusion
  cases hu : unifyPatterns concl sub b with
  | none =>
    refine ⟨Nat.le_refl c, fun _ h => (nomatch h), fun σ ⟨hs, heq, _⟩ => ?_⟩
    obtain ⟨_, h, _⟩ := unifyPatterns_complete hs heq
    rw [hu] at h
    cases h
  | some rb =>
    have g := solvePremises_good hg (bs := [rb]) (fun b' hb' => by
      cases List.mem_singleton.1 hb'; exact unifyPatterns_known hb hcl hsub hu) hps
    exact ⟨g.le, g.known, fun σ ⟨hs, heq, hd⟩ =>
      g.finds σ ⟨rb, List.mem_singleton.2 rfl, (sat_unifyPatterns hu).2 ⟨hs, heq⟩, hd⟩⟩

theorem tryConclusions_good {prems cs : List Pattern} (hps : ∀ p ∈ prems, PatKnown reserved c p)
    (hcs : ∀ q ∈ cs, PatKnown reserved c q) :
    Good reserved c
      (fun σ => ∃ concl ∈ cs, Sat σ b ∧ concl.inst σ = sub.inst σ ∧ ∀ p ∈ prems, Below F P m (p.inst σ))
      (tryConclusions rec sub b prems cs c) := by
  rw [tryConclusions_eq]
  exact collect_good fun q hq c' hc' => tryConclusion_good hg (hb.mono hc') (hsub.mono hc')
    (fun p hp => (hps p hp).mono hc') ((hcs q hq).mono hc')

/-- For the rule that derives the fact with instance `θ`: read the renamed rule under `σ` overridden with `θ` on the
    generated names, which no earlier name is. -/
theorem tryRule_good (r : Rule) :
    Good reserved c
      (fun σ => Sat σ b ∧ ∃ c0 ∈ r.conclusion, ∃ θ : String → Nat, c0.inst θ = sub.inst σ ∧
        ∀ p ∈ r.premise, Below F P m (p.inst θ))
      (tryRule rec reserved sub b r c) := by
  obtain ⟨st, hi, he, hmapped⟩ := renameRule_fresh reserved r c
  rw [tryRule, he]
  have g := tryConclusions_good hg (hb.mono hi.le) (hsub.mono hi.le)
    (map_applyMapP_known hi fun q hq => hmapped q (.inl hq))
    (map_applyMapP_known hi fun q hq => hmapped q (.inr hq))
  refine ⟨Nat.le_trans hi.le g.le, g.known, fun σ ⟨hs, c0, hc0, θ, heq, hd⟩ => ?_⟩
  have ha1 : AgreeOn reserved c σ (extendVal st.map θ σ) := extendVal_agree hi
  obtain ⟨b', hb', σ', hs', ha'⟩ := g.finds (extendVal st.map θ σ)
    ⟨applyMapP st.map c0, List.mem_map_of_mem hc0, sat_agree ha1 hb hs,
      by rw [applyMapP_extend hi (hmapped c0 (.inr hc0)), inst_agree ha1 hsub]; exact heq,
      fun p hp => by
        obtain ⟨p0, hp0, rfl⟩ := List.mem_map.1 hp
        rw [applyMapP_extend hi (hmapped p0 (.inl hp0))]
        exact hd p0 hp0⟩
  exact ⟨b', hb', σ', hs', AgreeOn.trans hi.le ha1 ha'⟩

theorem tryRules_good (rs : List Rule) :
    Good reserved c
      (fun σ => ∃ r ∈ rs, Sat σ b ∧ ∃ c0 ∈ r.conclusion, ∃ θ : String → Nat, c0.inst θ = sub.inst σ ∧
        ∀ p ∈ r.premise, Below F P m (p.inst θ))
      (tryRules rec reserved sub b rs c) := by
  rw [tryRules_eq]
  exact collect_good fun r _ c' hc' => tryRule_good hg (hb.mono hc') (hsub.mono hc') r

end

/-- a fact of the program is found by the fact lookup, a rule instance by `tryRules` with one level less -/
theorem bcStep_good {m : Nat} (hg : RecGood reserved F P m rec) :
    RecGood reserved F P (m + 1) (bcStep reserved F P rec) := by
  intro q b c hb hq
  have hsub := substitute_known hb hq
  have g := tryRules_good hg hb hsub P
  refine ⟨g.le, fun b' hb' => ?_, fun σ ⟨hs, n, hn, hd⟩ => ?_⟩
  · rcases List.mem_append.1 hb' with h | h
    · obtain ⟨f, _, hu⟩ := List.mem_filterMap.1 h
      exact (unifyPatterns_known hb hsub (patKnown_fact c f) hu).mono g.le
    · exact g.known b' h
  · have hinst := substitute_inst hs q
    generalize q.inst σ = f at hd hinst
    cases hd with
    | fact hfm =>
      obtain ⟨b', hu, hs'⟩ := unifyPatterns_complete (p2 := f.toPattern) hs hinst
      exact ⟨b', List.mem_append_left _ (List.mem_filterMap.2 ⟨f, hfm, hu⟩), σ, hs', AgreeOn.refl _ _⟩
    | rule θ hr hc0 hprem =>
      obtain ⟨b', hb', h⟩ := g.finds σ ⟨_, hr, hs, _, hc0, θ, hinst.symm,
        fun p hp => ⟨_, Nat.lt_of_succ_lt_succ hn, hprem p hp⟩⟩
      exact ⟨b', List.mem_append_right _ hb', h⟩

theorem bcAux_good (F : List Fact) (P : List Rule) (m : Nat) : RecGood reserved F P m (bcAux reserved F P m) := by
  induction m with
  | zero =>
    exact fun _ _ c _ _ => ⟨Nat.le_refl c, fun _ h => (nomatch h), fun _ ⟨_, _, hn, _⟩ => absurd hn (Nat.not_lt_zero _)⟩
  | succ m ih => exact bcStep_good ih

end Kolibrie.Sld
