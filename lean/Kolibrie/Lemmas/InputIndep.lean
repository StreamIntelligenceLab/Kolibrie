import Kolibrie.Lemmas.Scan
/-! The executor is input-independent on the safe fragment: `exec p inc ≃ inc ⋈ exec p [∅]`, hence the three join
    algorithms agree.  On the way: every operator, and `finalize_subquery`, keeps rows canonical. -/
namespace Kolibrie.Engine
open List

/-- well-formedness of a context: the visible named graphs are a set (`HashSet<GraphId>`) -/
def Ctx.WF (ctx : Ctx) : Prop := ctx.view.named.Nodup

/-- the fragment on which input independence is proved: everything the lowering produces except BIND;
    a FILTER's variables must be bound in every solution of its own input (`certainVars` semantically) -/
def Safe (db : DB) : Plan → Prop
  | .unit => True
  | .empty => True
  | .scan _ => True
  | .star _ => True
  | .values _ _ => True
  | .subquery _ _ => True
  | .union l r => Safe db l ∧ Safe db r
  | .bindJoin l r => Safe db l ∧ Safe db r
  | .hashJoin l r => Safe db l ∧ Safe db r
  | .nlJoin l r => Safe db l ∧ Safe db r
  | .graph i _ => Safe db i
  | .filter i c => Safe db i ∧
      ∀ ctx : Ctx, ctx.WF → ∀ r ∈ exec db i ctx [[]], ∀ v ∈ c.vars, (Row.get r v).isSome = true
  | .project _ _ => False
  | .bind _ _ _ => False

theorem mem_graphVarRow {db : DB} {ctx : Ctx} {v : Var} {child : Ctx → List Row → List Row} {row b : Row}
    (h : b ∈ graphVarRow db ctx v child row) :
    ∃ g row', visibleNamed db ctx g = true ∧ matchTerm (.var v) g row = some row' ∧
      b ∈ child { ctx with active := some g } [row'] := by
  revert h
  fun_cases graphVarRow db ctx v child row with
  | case1 g hg hv =>
    exact fun h => ⟨g, row, hv, by rw [matchTerm_var_some v g g row hg, if_pos (beq_self_eq_true g)], h⟩
  | case2 g hg hv => exact fun h => nomatch h
  | case3 hg =>
    intro h
    obtain ⟨g, hgL, hb⟩ := mem_flatMap.1 h
    exact ⟨g, _, (visibleNamed_iff db ctx g).2 hgL, matchTerm_var_none v g row hg, hb⟩

theorem graphVarRow_perm (db : DB) (ctx : Ctx) (v : Var) (c1 c2 : Ctx → List Row → List Row) (row : Row)
    (h : ∀ g row', matchTerm (.var v) g row = some row' →
      c1 { ctx with active := some g } [row'] ~ c2 { ctx with active := some g } [row']) :
    graphVarRow db ctx v c1 row ~ graphVarRow db ctx v c2 row := by
  unfold graphVarRow
  cases hg : Row.get row v with
  | none => exact perm_flatMap_congr _ _ _ fun g _ => h g _ (matchTerm_var_none v g row hg)
  | some g =>
    dsimp only
    by_cases hv : visibleNamed db ctx g = true
    · rw [if_pos hv, if_pos hv]
      exact h g row (by rw [matchTerm_var_some v g g row hg, if_pos (beq_self_eq_true g)])
    · rw [if_neg hv, if_neg hv]

/-- on a canonical row and a set of visible graphs: one run of the child per visible graph, on the row joined with
    the binding `v ↦ g` (no row, hence no run, where the row binds `v` to another graph) -/
theorem graphVarRow_eq (db : DB) (ctx : Ctx) (hc : ctx.view.named.Nodup) (v : Var)
    (child : Ctx → List Row → List Row) (hnil : ∀ c, child c [] = []) (row : Row) (hr : Row.WF row) :
    graphVarRow db ctx v child row = (ctx.view.named.filter (fun g => db.graphExists g)).flatMap
      (fun g => child { ctx with active := some g } (nlJoin [row] [[(v, g)]])) := by
  have hj : ∀ g, nlJoin [row] [[(v, g)]] = (matchTerm (.var v) g row).toList := fun g => by
    rw [nlJoin_single_merge, mergeRows_single row hr]
  simp only [hj]
  unfold graphVarRow
  cases hg : Row.get row v with
  | none => simp only [matchTerm_var_none v _ row hg, Option.toList_some]
  | some g0 =>
    dsimp only
    rw [flatMap_visible_single db ctx hc g0 _ (fun g' hne => by
      rw [matchTerm_var_some v g' g0 row hg, if_neg (by simpa using Ne.symm hne)]; exact hnil _),
      matchTerm_var_some v g0 g0 row hg, if_pos (beq_self_eq_true g0), Option.toList_some]

/-- **`GRAPH ?v` is input-independent when its child is**, the child's own solutions under graph `g` being
    `own { ctx with active := some g }`: the incoming rows are joined with one block `v ↦ g` per visible graph -/
theorem graphVar_join (db : DB) (ctx : Ctx) (hc : ctx.view.named.Nodup) (v : Var)
    (child : Ctx → List Row → List Row) (hnil : ∀ c, child c [] = []) (own : Ctx → List Row)
    (h : ∀ g, visibleNamed db ctx g = true → ∀ row', Row.WF row' → Row.get row' v = some g →
      child { ctx with active := some g } [row'] ~ nlJoin [row'] (own { ctx with active := some g }))
    (inc : List Row) (hi : AllWF inc) :
    inc.flatMap (graphVarRow db ctx v child) ~
      nlJoin inc ((ctx.view.named.filter (fun g => db.graphExists g)).flatMap
        (fun g => nlJoin [[(v, g)]] (own { ctx with active := some g }))) := by
  rw [nlJoin_single_flat]
  refine perm_flatMap_congr inc _ _ fun row hrow => ?_
  have hrw : Row.WF row := hi row hrow
  rw [graphVarRow_eq db ctx hc v child hnil row hrw]
  refine Perm.trans ?_ (nlJoin_flatMap_right [row] _ _).symm
  refine perm_flatMap_congr _ _ _ fun g hg => ?_
  rw [← nlJoin_assoc [row] _ _ (allWF_singleton hrw) (allWF_singleton (wf_single v g)), nlJoin_single_merge]
  cases hm : mergeRows row [(v, g)] with
  | none => rw [Option.toList_none, hnil]; exact .refl _
  | some row' =>
    rw [mergeRows_single row hrw] at hm
    exact h g ((visibleNamed_iff db ctx g).2 hg) row' (matchTerm_wf _ _ row row' hrw hm) (matchTerm_binds v g row row' hm)

theorem wf_restrict (r : Row) (vs : List Var) (h : Row.WF r) : Row.WF (Row.restrict r vs) :=
  List.Pairwise.filter _ h

theorem wf_erase (r : Row) (v : Var) (h : Row.WF r) : Row.WF (Row.erase r v) :=
  List.Pairwise.filter _ h

theorem hashJoin_wf (a b : List Row) (ha : AllWF a) : AllWF (hashJoin a b) :=
  allWF_of_perm (hashJoin_perm_nlJoin a b).symm (nlJoin_wf a b ha)

theorem star_wf (db : DB) (ctx : Ctx) (pats : List QPat) (inc : List Row) (hi : AllWF inc) :
    AllWF (pats.foldl (fun acc p => scan db ctx { p with g := .dflt } acc) inc) := by
  induction pats generalizing inc with
  | nil => exact hi
  | cons p ps ih => exact ih _ (scan_wf db ctx _ inc hi)

theorem exec_wf (db : DB) (p : Plan) (ctx : Ctx) (inc : List Row) (hi : AllWF inc) : AllWF (exec db p ctx inc) := by
  induction p generalizing ctx inc with
  | unit => rw [exec_unit]; exact hi
  | empty => rw [exec_empty]; exact allWF_nil
  | scan pat => rw [exec_scan]; exact scan_wf db ctx pat inc hi
  | union l r ihl ihr => rw [exec_union]; exact allWF_append (ihl ctx inc hi) (ihr ctx inc hi)
  | graph i g ih =>
    cases g with
    | dflt => rw [exec_graph_dflt]; exact ih _ inc hi
    | named gn =>
      rw [exec_graph_named]
      split
      · exact ih _ inc hi
      · exact allWF_nil
    | var v =>
      rw [exec_graph_var]
      refine allWF_flatMap _ _ fun row hrow b hb => ?_
      obtain ⟨g, row', _, hm, hb'⟩ := mem_graphVarRow hb
      exact ih _ _ (allWF_singleton (matchTerm_wf _ _ row row' (hi row hrow) hm)) b hb'
  | filter i c ih => rw [exec_filter]; exact allWF_filter _ (ih ctx inc hi)
  | project i vs ih => rw [exec_project]; exact allWF_map _ (fun r => wf_restrict r vs) (ih ctx inc hi)
  | bindJoin l r ihl ihr => rw [exec_bindJoin]; exact ihr ctx _ (ihl ctx inc hi)
  | hashJoin l r ihl _ => rw [exec_hashJoin]; exact hashJoin_wf _ _ (ihl ctx inc hi)
  | nlJoin l r ihl _ => rw [exec_nlJoin]; exact nlJoin_wf _ _ (ihl ctx inc hi)
  | star pats => rw [exec_star]; exact star_wf db ctx pats inc hi
  | values vars rows => rw [exec_values]; exact nlJoin_wf _ _ hi
  | subquery i spec _ => rw [exec_subquery]; exact nlJoin_wf _ _ hi
  | bind i args out ih => rw [exec_bind]; exact allWF_map _ (fun r => Row.wf_insert r out _) (ih ctx inc hi)

theorem insertBy_perm (order : List (Var × Bool)) (x : Row) (l : List Row) : insertBy order x l ~ x :: l := by
  fun_induction insertBy order x l with
  | case1 => exact .refl _
  | case2 y ys h => exact .refl _
  | case3 y ys h ih => exact (ih.cons y).trans (.swap x y ys)

theorem sortRows_perm (order : List (Var × Bool)) (rows : List Row) : sortRows order rows ~ rows := by
  induction rows with
  | nil => exact .refl _
  | cons x xs ih => exact (insertBy_perm order x _).trans (ih.cons x)

theorem aggregate_wf (aggs : List ProjItem) (gv : List Var) (rows : List Row) (h : AllWF rows) :
    AllWF (aggregate aggs gv rows) := by
  unfold aggregate
  simp only
  split
  · exact h
  · intro r hr
    simp only [mem_map] at hr
    obtain ⟨grp, hg, rfl⟩ := hr
    -- a group consists of rows of the input, so its first row (or the empty row) is canonical
    have hgrp : ∀ x ∈ grp, Row.WF x := by
      split at hg
      · simp at hg; subst hg; intro x hx; simp at hx
      · simp only [groupRows, mem_map] at hg
        obtain ⟨k, _, rfl⟩ := hg
        intro x hx
        exact h x (mem_filter.1 hx).1
    have hbase : Row.WF (grp.head?.getD []) := by
      cases grp with
      | nil => exact Row.wf_nil
      | cons a as => exact hgrp a mem_cons_self
    refine foldl_wf _ (fun res p hres => ?_) _ _ hbase
    cases p with
    | var _ => exact hres
    | agg k input out =>
      dsimp only
      split
      · exact Row.wf_insert _ _ _ hres
      · exact wf_erase _ _ hres

theorem finalizeSub_wf (spec : Spec) (rows : List Row) (h : AllWF rows) : AllWF (finalizeSub spec rows) := by
  -- aggregate → order → project → distinct → limit, each stage on the output of the one before
  have h1 := aggregate_wf (spec.proj.getD []) spec.groupVars rows h
  have tail : ∀ r3, AllWF r3 → AllWF (match spec.limit with
      | none => if spec.distinct then r3.eraseDups else r3
      | some n => (if spec.distinct then r3.eraseDups else r3).take n) := by
    intro r3 h3
    have h4 : AllWF (if spec.distinct then r3.eraseDups else r3) := by
      split
      · exact fun r hr => h3 r (mem_eraseDups.1 hr)
      · exact h3
    cases spec.limit with
    | none => exact h4
    | some n => exact fun r hr => h4 r (mem_of_mem_take hr)
  unfold finalizeSub
  dsimp only
  generalize aggregate (spec.proj.getD []) spec.groupVars rows = r1 at h1 ⊢
  have h2 : AllWF (if spec.order.isEmpty then r1 else sortRows spec.order r1) := by
    split
    · exact h1
    · exact allWF_of_perm (sortRows_perm _ r1).symm h1
  generalize (if spec.order.isEmpty then r1 else sortRows spec.order r1) = r2 at h2 ⊢
  cases spec.proj with
  | none => exact tail r2 h2
  | some ps =>
    exact tail _ (allWF_map _ (fun x => wf_restrict x _) h2)

theorem eval_congr (c : Cond) (a b : Row) (h : ∀ v ∈ c.vars, Row.get a v = Row.get b v) : c.eval a = c.eval b := by
  induction c with
  | cmp v op rhs =>
    cases rhs with
    | var w =>
      have hv : Row.get a v = Row.get b v := h v mem_cons_self
      have hw : Row.get a w = Row.get b w := h w (mem_cons_of_mem _ mem_cons_self)
      simp only [Cond.eval, hv, hw]
    | const r =>
      have hv : Row.get a v = Row.get b v := h v mem_cons_self
      simp only [Cond.eval, hv]
  | and x y ihx ihy | or x y ihx ihy =>
    simp only [Cond.eval]
    rw [ihx (fun v hv => h v (mem_append_left _ hv)), ihy (fun v hv => h v (mem_append_right _ hv))]
  | not x ih =>
    simp only [Cond.eval]
    rw [ih h]

theorem eval_merge (c : Cond) (row r m : Row) (hm : mergeRows row r = some m) (hb : boundIn r c.vars) :
    c.eval m = c.eval r := by
  obtain ⟨hc, rfl⟩ := mergeRows_eq_some hm
  refine eval_congr c _ _ fun v hv => ?_
  rw [get_unionRows]
  cases hx : Row.get row v with
  | none => rfl
  | some x =>
    obtain ⟨y, hy⟩ := Option.isSome_iff_exists.1 (hb v hv)
    show some x = Row.get r v
    rw [hy, hc v x y hx hy]

theorem filterMap_filter_comm {α β} (l : List α) (f : α → Option β) (p : β → Bool) (p' : α → Bool)
    (h : ∀ a ∈ l, ∀ b, f a = some b → p b = p' a) : (l.filterMap f).filter p = (l.filter p').filterMap f := by
  rw [filter_filterMap, filterMap_filter]
  refine filterMap_congr_left l _ _ fun a ha => ?_
  cases hfa : f a with
  | none => rw [Option.filter_none, ite_self]
  | some b => rw [Option.filter_some, h a ha b hfa]

theorem filter_nlJoin_of (p : Row → Bool) (inc e : List Row)
    (h : ∀ row ∈ inc, ∀ r ∈ e, ∀ m, mergeRows row r = some m → p m = p r) :
    (nlJoin inc e).filter p = nlJoin inc (e.filter p) := by
  unfold nlJoin
  rw [filter_flatMap]
  exact flatMap_congr_left _ _ _ fun row hrow => filterMap_filter_comm e _ p p fun r hr m hm => h row hrow r hr m hm

theorem filter_nlJoin (c : Cond) (inc e : List Row) (hb : ∀ r ∈ e, boundIn r c.vars) :
    (nlJoin inc e).filter c.eval = nlJoin inc (e.filter c.eval) :=
  filter_nlJoin_of c.eval inc e fun row _ r hr m hm => eval_merge c row r m hm (hb r hr)

/-- input independence passes to compositions: feeding `l`'s output into `r` (bind join, scan chains) -/
theorem input_join_comp (l r : List Row → List Row) (hwf : ∀ x, AllWF x → AllWF (l x))
    (hl : ∀ x, AllWF x → l x ~ nlJoin x (l [[]])) (hr : ∀ x, AllWF x → r x ~ nlJoin x (r [[]]))
    (inc : List Row) (hi : AllWF inc) : r (l inc) ~ nlJoin inc (r (l [[]])) := by
  have hL : AllWF (l [[]]) := hwf _ allWF_unit
  have h2 := nlJoin_perm_left (r [[]]) (hl inc hi)
  rw [nlJoin_assoc inc _ _ hi hL] at h2
  exact (hr _ (hwf inc hi)).trans (h2.trans (nlJoin_perm_right inc (hr _ hL).symm))

theorem star_input_join (db : DB) (ctx : Ctx) (hc : ctx.WF) (pats : List QPat) :
    ∀ inc, AllWF inc →
      pats.foldl (fun acc p => scan db ctx { p with g := .dflt } acc) inc ~
      nlJoin inc (pats.foldl (fun acc p => scan db ctx { p with g := .dflt } acc) [[]]) := by
  induction pats with
  | nil => intro inc _; rw [foldl_nil, foldl_nil, nlJoin_unit_right]
  | cons p ps ih =>
    intro inc hi
    exact input_join_comp (scan db ctx { p with g := .dflt }) _ (scan_wf db ctx _)
      (fun x hx => .of_eq (scan_seed db ctx _ x hx hc)) ih inc hi

/-- **Input independence.**  On the safe fragment, executing a plan with incoming solutions gives the same
    multiset as joining the incoming solutions with the plan's own solutions. -/
theorem exec_input_join (db : DB) (p : Plan) (hs : Safe db p) :
    ∀ (ctx : Ctx), ctx.WF → ∀ inc, AllWF inc → exec db p ctx inc ~ nlJoin inc (exec db p ctx [[]]) := by
  intro ctx hc inc hi
  induction p generalizing ctx inc with
  | unit => rw [exec_unit, exec_unit, nlJoin_unit_right]
  | empty => rw [exec_empty, exec_empty, nlJoin_nil_right]
  | scan pat => rw [exec_scan, exec_scan, scan_seed db ctx pat inc hi hc]
  | star pats => rw [exec_star, exec_star]; exact star_input_join db ctx hc pats inc hi
  | values vars rows =>
    rw [exec_values, exec_values, ← nlJoin_assoc inc [[]] _ hi allWF_unit, nlJoin_unit_right]
  | subquery i spec _ =>
    rw [exec_subquery, exec_subquery, ← nlJoin_assoc inc [[]] _ hi allWF_unit, nlJoin_unit_right]
  | project i vs _ => exact hs.elim
  | bind i args out _ => exact hs.elim
  | union l r ihl ihr =>
    rw [exec_union, exec_union]
    exact ((ihl hs.1 ctx hc inc hi).append (ihr hs.2 ctx hc inc hi)).trans (nlJoin_append_right inc _ _).symm
  | filter i c ih =>
    rw [exec_filter, exec_filter, ← filter_nlJoin c inc _ (hs.2 ctx hc)]
    exact (ih hs.1 ctx hc inc hi).filter c.eval
  | bindJoin l r ihl ihr =>
    rw [exec_bindJoin, exec_bindJoin]
    exact input_join_comp (exec db l ctx) (exec db r ctx) (exec_wf db l ctx) (ihl hs.1 ctx hc) (ihr hs.2 ctx hc) inc hi
  | hashJoin l r ihl _ =>
    rw [exec_hashJoin, exec_hashJoin]
    have h2 := nlJoin_perm_left (exec db r ctx [[]]) (ihl hs.1 ctx hc inc hi)
    rw [nlJoin_assoc inc _ _ hi (exec_wf db l ctx _ allWF_unit)] at h2
    exact (hashJoin_perm_nlJoin _ _).trans (h2.trans (nlJoin_perm_right inc (hashJoin_perm_nlJoin _ _).symm))
  | nlJoin l r ihl _ =>
    rw [exec_nlJoin, exec_nlJoin, ← nlJoin_assoc inc _ _ hi (exec_wf db l ctx _ allWF_unit)]
    exact nlJoin_perm_left (exec db r ctx [[]]) (ihl hs.1 ctx hc inc hi)
  | graph i g ih =>
    cases g with
    | dflt => rw [exec_graph_dflt, exec_graph_dflt]; exact ih hs { ctx with active := none } hc inc hi
    | named gn =>
      rw [exec_graph_named, exec_graph_named]
      split
      · exact ih hs { ctx with active := some gn } hc inc hi
      · rw [nlJoin_nil_right]
    | var v =>
      rw [exec_graph_var, exec_graph_var]
      have key := graphVar_join db ctx hc v (exec db i) (exec_nil db i) (fun c => exec db i c [[]])
        (fun g _ row' hr' _ => ih hs { ctx with active := some g } hc [row'] (allWF_singleton hr'))
      -- both sides are the incoming rows joined with one block per visible graph
      have hown := key [[]] allWF_unit
      rw [nlJoin_unit_left _ (allWF_flatMap _ _ fun g _ => nlJoin_wf _ _ (allWF_singleton (wf_single v g)))] at hown
      exact (key inc hi).trans (nlJoin_perm_right inc hown.symm)

theorem exec_mkJoin (db : DB) (alg : JoinAlg) (l r : Plan) (hr : Safe db r) (ctx : Ctx) (hc : ctx.WF)
    (inc : List Row) (hi : AllWF inc) :
    exec db (mkJoin alg l r) ctx inc ~ nlJoin (exec db l ctx inc) (exec db r ctx [[]]) := by
  cases alg with
  | bind => exact (exec_bindJoin db ctx l r inc).symm ▸ exec_input_join db r hr ctx hc _ (exec_wf db l ctx inc hi)
  | hash => exact (exec_hashJoin db ctx l r inc).symm ▸ hashJoin_perm_nlJoin _ _
  | nl => exact (exec_nlJoin db ctx l r inc).symm ▸ .refl _

end Kolibrie.Engine
