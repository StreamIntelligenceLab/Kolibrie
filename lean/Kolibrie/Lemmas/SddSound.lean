import Kolibrie.Lemmas.Sdd
/-!
Soundness of every operation of the model with respect to the semantic invariant `MInv`: whatever an operation
returns, and wherever it is interrupted, it leaves an invariant-respecting extension of the manager it started
from (`Ext`), and a returned handle denotes the intended function.  Stated once as `Sound` and composed along
the `do`-blocks of the model.
-/
namespace Kolibrie.Sdd

def Ext (m m' : Mgr) : Prop := MInv m' ∧ Pre m m'

theorem Ext.refl {m : Mgr} (h : MInv m) : Ext m m := ⟨h, Pre.refl m⟩
theorem Ext.trans {a b c : Mgr} (h1 : Ext a b) (h2 : Ext b c) : Ext a c := ⟨h2.1, h1.2.trans h2.2⟩

def Post {α} (m0 : Mgr) (R : α → Mgr → Prop) : Except Err α × St → Prop
  | (.ok a, s') => Ext m0 s'.m ∧ R a s'.m
  | (.error _, s') => Ext m0 s'.m

theorem bind_def {α β} (x : M α) (f : α → M β) (s : St) :
    (x >>= f) s = match x s with
      | (.ok a, s') => f a s'
      | (.error e, s') => (.error e, s') := rfl

theorem pure_def {α} (a : α) (s : St) : (pure a : M α) s = (.ok a, s) := rfl

theorem Post.rebase {α} {m0 m1 : Mgr} {R : α → Mgr → Prop} {out : Except Err α × St}
    (he : Ext m0 m1) (h : Post m1 R out) : Post m0 R out := by
  rcases out with ⟨_ | a, s⟩
  · exact he.trans h
  · exact ⟨he.trans h.1, h.2⟩

/-- `x`, started on manager `m` at whatever tick count, satisfies `Post m R`.  The tick counter only feeds the
deadline oracle, so quantifying it away is what makes every statement below hold at every interruption point. -/
def Sound {α} (m : Mgr) (R : α → Mgr → Prop) (x : M α) : Prop := MInv m → ∀ t, Post m R (x ⟨m, t⟩)

section rules
variable {α β : Type} {m : Mgr} {R : α → Mgr → Prop} {Q : β → Mgr → Prop}

theorem Sound.of_inv {x : M α} (h : MInv m → Sound m R x) : Sound m R x := fun hm => h hm hm

theorem Sound.pure {a : α} (hr : R a m) : Sound m R (pure a) := fun hm _ => ⟨Ext.refl hm, hr⟩

theorem Sound.fail {e : Err} : Sound m R (failM e) := fun hm _ => Ext.refl hm

theorem Sound.mono {R' : α → Mgr → Prop} {x : M α} (hx : Sound m R x)
    (hr : ∀ a m1, Ext m m1 → R a m1 → R' a m1) : Sound m R' x := by
  intro hm t
  have := hx hm t
  generalize x ⟨m, t⟩ = out at this ⊢
  rcases out with ⟨_ | a, s⟩
  · exact this
  · exact ⟨this.1, hr a s.m this.1 this.2⟩

theorem Sound.bind {x : M α} {f : α → M β} (hx : Sound m R x)
    (hf : ∀ a m1, Ext m m1 → R a m1 → Sound m1 Q (f a)) : Sound m Q (x >>= f) := by
  intro hm t
  have := hx hm t
  rw [bind_def]
  generalize x ⟨m, t⟩ = out at this ⊢
  rcases out with ⟨_ | a, s⟩
  · exact this
  · exact Post.rebase this.1 (hf a s.m this.1 this.2 this.1.1 s.ticks)

theorem Sound.ite {c : Prop} [Decidable c] {x y : M α} (hx : c → Sound m R x) (hy : ¬c → Sound m R y) :
    Sound m R (if c then x else y) := by
  by_cases h : c
  · rw [if_pos h]; exact hx h
  · rw [if_neg h]; exact hy h

theorem Sound.checkpoint_bind {b : Budget} {k : Unit → M β} (hk : Sound m Q (k ())) :
    Sound m Q (checkpoint b >>= k) := by
  intro hm t
  rw [bind_def]; unfold checkpoint
  by_cases ho : b.oracle t = true
  · rw [if_pos ho]; exact hk hm (t + 1)
  · rw [if_neg ho]; exact Ext.refl hm

theorem Sound.getM_bind {k : Mgr → M β} (hk : Sound m Q (k m)) : Sound m Q (getM >>= k) := hk

theorem Sound.ofOption_bind {o : Option α} {k : α → M β} (hk : ∀ a, o = some a → Sound m Q (k a)) :
    Sound m Q (ofOption o >>= k) := by
  cases o with
  | none => exact Sound.fail (e := .panic)
  | some a => exact hk a rfl

theorem Sound.modifyM_bind {f : Mgr → Mgr} {k : Unit → M β} (he : Ext m (f m)) (hk : Sound (f m) Q (k ())) :
    Sound m Q (modifyM f >>= k) := fun _ t => Post.rebase he (hk he.1 t)

theorem beforeAllocation_sound {b : Budget} : Sound m (fun _ m1 => m1 = m) (beforeAllocation b) := by
  refine .checkpoint_bind (.getM_bind ?_)
  cases b.maxNodes with
  | none => exact .pure rfl
  | some n => exact .ite (fun _ => .fail) (fun _ => .pure rfl)

theorem Sound.beforeAllocation_bind {b : Budget} {k : Unit → M β} (hk : Sound m Q (k ())) :
    Sound m Q (beforeAllocation b >>= k) :=
  beforeAllocation_sound.bind fun _ _ _ h => h ▸ hk

end rules

/-! ### the three mutations of an operation: push a node, extend the apply cache, extend the negation cache -/

def pushed (m : Mgr) (nd : Node) : Mgr :=
  { m with nodes := m.nodes ++ [nd], unique := (nd, m.nodes.length) :: m.unique }

theorem pre_pushed (m : Mgr) (nd : Node) : Pre m (pushed m nd) :=
  ⟨⟨[nd], rfl⟩, rfl, rfl, rfl, rfl, rfl, rfl⟩

theorem getElem?_pushed (m : Mgr) (nd : Node) : (pushed m nd).nodes[m.nodes.length]? = some nd :=
  List.getElem?_concat_length

theorem getElem?_concat_some {α} {l : List α} {a b : α} {i : Nat} (h : (l ++ [a])[i]? = some b) :
    l[i]? = some b ∨ (i = l.length ∧ a = b) := by
  rcases Nat.lt_or_ge i l.length with hl | hl
  · exact .inl (by rwa [List.getElem?_append_left hl] at h)
  · have hlt := lt_of_getElem? h
    rw [List.length_append, List.length_singleton] at hlt
    have hil : i = l.length := Nat.le_antisymm (Nat.le_of_lt_succ hlt) hl
    rw [hil, List.getElem?_concat_length] at h
    exact .inr ⟨hil, Option.some.inj h⟩

theorem pushNode_sound {m : Mgr} {nd : Node} {R : Id → Mgr → Prop} (hi : MInv (pushed m nd))
    (hr : R m.nodes.length (pushed m nd)) : Sound m R (pushNode nd) :=
  fun _ _ => ⟨⟨hi, pre_pushed m nd⟩, hr⟩

theorem alookup_cons {α β} [DecidableEq α] (k k' : α) (v : β) (l : List (α × β)) :
    alookup k ((k', v) :: l) = if k = k' then some v else alookup k l := rfl

theorem alookup_cons_some {α β} [DecidableEq α] {k k' : α} {v r : β} {l : List (α × β)}
    (h : alookup k ((k', v) :: l) = some r) : (k = k' ∧ v = r) ∨ alookup k l = some r := by
  rw [alookup_cons] at h
  by_cases hk : k = k'
  · rw [if_pos hk] at h; exact .inl ⟨hk, Option.some.inj h⟩
  · rw [if_neg hk] at h; exact .inr h

def Op.eval : Op → Bool → Bool → Bool
  | .and => Bool.and
  | .or => Bool.or

theorem Fn.op_apply (op : Op) (f g : Fn) (σ : Asg) : Fn.op op f g σ = op.eval (f σ) (g σ) := by
  cases op <;> rfl

theorem Fn.op_congr (op : Op) {f f' g g' : Fn} (hf : ∀ σ, f σ = f' σ) (hg : ∀ σ, g σ = g' σ) (σ : Asg) :
    Fn.op op f g σ = Fn.op op f' g' σ := by
  rw [Fn.op_apply, Fn.op_apply, hf, hg]

theorem push_inv {m : Mgr} (h : MInv m) (nd : Node)
    (hnd : ∀ vt els, nd = Node.dec vt els → ValidEls m els ∧ ∀ σ, cntP m σ els = 1) : MInv (pushed m nd) := by
  have hp := pre_pushed m nd
  refine ⟨?_, ?_, ?_, ?_, ?_, ?_⟩
  · obtain ⟨rest, hr⟩ := h.hd
    exact ⟨rest ++ [nd], by rw [pushed, hr]; rfl⟩
  · intro i vt els hi e he
    rcases getElem?_concat_some (l := m.nodes) hi with hold | ⟨hieq, hnew⟩
    · exact h.closed i vt els hold e he
    · rw [hieq]; exact (hnd vt els hnew).1 e he
  · intro i vt els hi σ
    rcases getElem?_concat_some (l := m.nodes) hi with hold | ⟨_, hnew⟩
    · rw [cntP_pre hp (ValidEls_of_closed h hold)]; exact h.part i vt els hold σ
    · rw [cntP_pre hp (hnd vt els hnew).1]; exact (hnd vt els hnew).2 σ
  · intro k id hk
    rcases alookup_cons_some (l := m.unique) hk with ⟨rfl, rfl⟩ | hk
    · exact getElem?_pushed m k
    · exact hp.getElem? (h.uniq k id hk)
  · intro a c op r hk
    obtain ⟨ha, hc, hr, hd⟩ := h.acache a c op r hk
    exact ⟨hp.valid ha, hp.valid hc, hp.valid hr, fun σ => by
      rw [den_pre hp hr, hd σ]; exact (Fn.op_congr op (den_pre hp ha) (den_pre hp hc) σ).symm⟩
  · intro a r hk
    obtain ⟨ha, hr, hd⟩ := h.ncache a r hk
    exact ⟨hp.valid ha, hp.valid hr, fun σ => by rw [den_pre hp hr, den_pre hp ha, hd σ]⟩

theorem MInv.congr {m m' : Mgr} (h : MInv m) (hn : m'.nodes = m.nodes) (hu : m'.unique = m.unique)
    (ha : m'.applyCache = m.applyCache) (hc : m'.negCache = m.negCache) : MInv m' := by
  cases m; cases m'
  dsimp only at hn hu ha hc
  subst hn hu ha hc
  exact ⟨h.hd, h.closed, h.part, h.uniq, h.acache, h.ncache⟩

theorem acache_ext {m : Mgr} (h : MInv m) {a c r : Id} {op : Op} {fa fc : Fn} (ha : Sem m a fa) (hc : Sem m c fc)
    (hr : Sem m r (Fn.op op fa fc)) : Ext m { m with applyCache := ((a, c, op), r) :: m.applyCache } := by
  refine ⟨⟨h.hd, h.closed, h.part, h.uniq, ?_, h.ncache⟩, ⟨[], (List.append_nil _).symm⟩, rfl, rfl, rfl, rfl, rfl, rfl⟩
  intro a' c' op' r' hk
  rcases alookup_cons_some hk with ⟨heq, rfl⟩ | hk
  · cases heq
    exact ⟨ha.1, hc.1, hr.1, fun σ => (hr.2 σ).trans (Fn.op_congr op ha.2 hc.2 σ).symm⟩
  · exact h.acache a' c' op' r' hk

theorem MInv.acache_sem {m : Mgr} (h : MInv m) {a c r : Id} {op : Op} {fa fc : Fn}
    (hk : alookup (a, c, op) m.applyCache = some r) (ha : Sem m a fa) (hc : Sem m c fc) :
    Sem m r (Fn.op op fa fc) :=
  have he := h.acache a c op r hk
  ⟨he.2.2.1, fun σ => (he.2.2.2 σ).trans (Fn.op_congr op ha.2 hc.2 σ)⟩

theorem ncache_ext {m : Mgr} (h : MInv m) {a r : Id} {f : Fn} (ha : Sem m a f) (hr : Sem m r (Fn.not f)) :
    Ext m { m with negCache := (a, r) :: m.negCache } := by
  refine ⟨⟨h.hd, h.closed, h.part, h.uniq, h.acache, ?_⟩, ⟨[], (List.append_nil _).symm⟩, rfl, rfl, rfl, rfl, rfl, rfl⟩
  intro a' r' hk
  rcases alookup_cons_some hk with ⟨rfl, rfl⟩ | hk
  · exact ⟨ha.1, hr.1, fun σ => (hr.2 σ).trans (congrArg (!·) (ha.2 σ)).symm⟩
  · exact h.ncache a' r' hk

theorem MInv.ncache_sem {m : Mgr} (h : MInv m) {a r : Id} {f : Fn} (hk : alookup a m.negCache = some r)
    (ha : Sem m a f) : Sem m r (Fn.not f) :=
  have he := h.ncache a r hk
  ⟨he.2.1, fun σ => by rw [he.2.2 σ, ha.2 σ]; rfl⟩

/-- the element list is valid, its primes form a partition, and it denotes `f` -/
def ElsSem (m : Mgr) (els : List Elem) (f : Fn) : Prop :=
  ValidEls m els ∧ (∀ σ, cntP m σ els = 1) ∧ ∀ σ, anyD m σ els = f σ

/-- the values under `σ` of the subs whose prime holds.  The loops of `apply` and `negate` act on this list by
`map` and `flatMap`, and an element list is a partition denoting `f` exactly when it is `[f σ]` for every `σ`
(`ElsSem.sel_eq`, `ElsSem.of_sel`). -/
def sel (m : Mgr) (σ : Asg) (els : List Elem) : List Bool :=
  (els.filter (fun e => den m e.1 σ)).map (fun e => den m e.2 σ)

theorem sel_cons (m : Mgr) (σ : Asg) (e : Elem) (els : List Elem) :
    sel m σ (e :: els) = if den m e.1 σ then den m e.2 σ :: sel m σ els else sel m σ els := by
  unfold sel
  rw [List.filter_cons]
  by_cases h : den m e.1 σ = true
  · rw [if_pos h, if_pos h]; rfl
  · rw [if_neg h, if_neg h]

theorem sel_append (m : Mgr) (σ : Asg) (a b : List Elem) : sel m σ (a ++ b) = sel m σ a ++ sel m σ b := by
  unfold sel; rw [List.filter_append, List.map_append]

theorem sel_pre {m m' : Mgr} (h : Pre m m') {els : List Elem} (hv : ValidEls m els) (σ : Asg) :
    sel m' σ els = sel m σ els := by
  unfold sel
  rw [List.filter_congr fun e he => den_pre h (hv e he).1 σ]
  exact List.map_congr_left fun e he => den_pre h (hv e (List.mem_filter.1 he).1).2 σ

theorem ElsSem.sel_eq {m : Mgr} {els : List Elem} {f : Fn} (hs : ElsSem m els f) (σ : Asg) :
    sel m σ els = [f σ] := by
  have hl : (sel m σ els).length = 1 := by
    rw [sel, List.length_map, ← List.countP_eq_length_filter]; exact hs.2.1 σ
  obtain ⟨x, hx⟩ := List.length_eq_one_iff.1 hl
  have ha : (sel m σ els).any id = f σ := by
    rw [sel, List.any_map, List.any_filter]; exact hs.2.2 σ
  rw [hx, List.any_cons, List.any_nil, Bool.or_false] at ha
  rw [hx, ← ha]; rfl

theorem ElsSem.of_sel {m : Mgr} {els : List Elem} {f : Fn} (hv : ValidEls m els)
    (h : ∀ σ, sel m σ els = [f σ]) : ElsSem m els f := by
  refine ⟨hv, fun σ => ?_, fun σ => ?_⟩
  · have := congrArg List.length (h σ)
    rwa [sel, List.length_map, ← List.countP_eq_length_filter] at this
  · have := congrArg (List.any · id) (h σ)
    rw [sel, List.any_map, List.any_filter] at this
    exact this.trans (Bool.or_false _)

theorem ElsSem.mono {m m' : Mgr} (h : Pre m m') {els : List Elem} {f : Fn} (hs : ElsSem m els f) :
    ElsSem m' els f :=
  ⟨hs.1.mono h, fun σ => by rw [cntP_pre h hs.1]; exact hs.2.1 σ, fun σ => by rw [anyD_pre h hs.1]; exact hs.2.2 σ⟩

theorem ElsSem.congr {m : Mgr} {els : List Elem} {f g : Fn} (hs : ElsSem m els f) (h : ∀ σ, f σ = g σ) :
    ElsSem m els g :=
  ⟨hs.1, hs.2.1, fun σ => (hs.2.2 σ).trans (h σ)⟩

theorem ElsSem.perm {m : Mgr} {els els' : List Elem} {f : Fn} (hp : els'.Perm els) (hs : ElsSem m els f) :
    ElsSem m els' f :=
  ⟨fun e he => hs.1 e (hp.mem_iff.1 he), fun σ => by rw [cntP, hp.countP_eq]; exact hs.2.1 σ,
    fun σ => by rw [anyD, hp.any_eq]; exact hs.2.2 σ⟩

theorem ElsSem.filter {m : Mgr} (h : MInv m) {els : List Elem} {f : Fn} (hs : ElsSem m els f) :
    ElsSem m (els.filter (fun e => e.1 ≠ FALSE)) f := by
  refine .of_sel (fun e he => hs.1 e (List.mem_filter.1 he).1) fun σ => ?_
  rw [← hs.sel_eq σ, sel, sel, List.filter_filter]
  refine congrArg _ (List.filter_congr fun e _ => ?_)
  by_cases he : e.1 = FALSE
  · rw [he, den_ff h]; rfl
  · rw [decide_eq_true he, Bool.and_true]

theorem elsSem_node {m : Mgr} (h : MInv m) {i vt : Nat} {els : List Elem}
    (hn : m.nodes[i]? = some (Node.dec vt els)) : ElsSem m els (den m i) :=
  ⟨ValidEls_of_closed h hn, h.part i vt els hn, fun σ => (den_dec h hn σ).symm⟩

theorem sem_dec {m : Mgr} (h : MInv m) {i vt : Nat} {els : List Elem} {f : Fn}
    (hn : m.nodes[i]? = some (Node.dec vt els)) (hs : ElsSem m els f) : Sem m i f :=
  ⟨lt_of_getElem? hn, fun σ => by rw [den_dec h hn, hs.2.2 σ]⟩

theorem elsSem_single {m : Mgr} (h : MInv m) {id : Id} {f : Fn} (hs : Sem m id f) : ElsSem m [(TRUE, id)] f :=
  .of_sel (.cons (valid_tt h) hs.1 .nil) fun σ => by
    rw [sel_cons, den_tt h, if_pos rfl, hs.2 σ]; rfl

theorem elsSem_pair {m : Mgr} (h : MInv m) {id neg : Id} {f : Fn} (hs : Sem m id f) (hn : Sem m neg (Fn.not f)) :
    ElsSem m [(id, TRUE), (neg, FALSE)] f :=
  .of_sel (.cons hs.1 (valid_tt h) (.cons hn.1 (valid_ff h) .nil)) fun σ => by
    rw [sel_cons, sel_cons, hs.2 σ, hn.2 σ, den_tt h, den_ff h, Fn.not]
    cases f σ <;> rfl

theorem trim_sound {m : Mgr} (h : MInv m) {els : List Elem} {f : Fn} (hs : ElsSem m els f) {x : Id}
    (ht : trim els = some x) : Sem m x f := by
  obtain ⟨hv, hc, ha⟩ := hs
  unfold trim at ht
  split at ht
  · exact absurd (hc fun _ => false) Nat.zero_ne_one
  · rename_i p s
    by_cases hp : p = TRUE
    · rw [if_pos hp] at ht; cases ht
      exact ⟨(hv _ (.head _)).2, fun σ => by rw [← ha σ, anyD_cons, hp, den_tt h]; exact (Bool.or_false _).symm⟩
    · rw [if_neg hp] at ht; cases ht
  · rename_i p1 s1 p2 s2
    have key : ∀ σ, f σ = (den m p1 σ && den m s1 σ || den m p2 σ && den m s2 σ) := fun σ => by
      rw [← ha σ, anyD, List.any_cons, List.any_cons, List.any_nil, Bool.or_false]
    by_cases h1 : s1 = TRUE ∧ s2 = FALSE
    · rw [if_pos h1] at ht; cases ht
      exact ⟨(hv _ (.head _)).1, fun σ => by
        rw [key, h1.1, h1.2, den_tt h, den_ff h, Bool.and_true, Bool.and_false, Bool.or_false]⟩
    · rw [if_neg h1] at ht
      by_cases h2 : s2 = TRUE ∧ s1 = FALSE
      · rw [if_pos h2] at ht; cases ht
        exact ⟨(hv _ (.tail _ (.head _))).1, fun σ => by
          rw [key, h2.1, h2.2, den_tt h, den_ff h, Bool.and_true, Bool.and_false, Bool.false_or]⟩
      · rw [if_neg h2] at ht; cases ht
  · cases ht

theorem literal_sound (b : Budget) (v : Nat) (pol : Bool) {m : Mgr} :
    Sound m (fun id m1 => Sem m1 id (Fn.lit v pol)) (literal b v pol) := by
  unfold literal
  refine .of_inv fun h => .checkpoint_bind (.getM_bind ?_)
  cases hl : alookup (Node.lit v pol) m.unique with
  | some id => exact .pure (sem_lit (h.uniq _ _ hl))
  | none =>
    exact .beforeAllocation_bind (pushNode_sound (push_inv h _ nofun) (sem_lit (getElem?_pushed m _)))

theorem internDecision_sound (b : Budget) (vt : Nat) {m : Mgr} {els : List Elem} {f : Fn} (hs : ElsSem m els f) :
    Sound m (fun id m1 => Sem m1 id f) (internDecision b vt els) := by
  unfold internDecision
  have hs' : ElsSem m (sortElems els) f := hs.perm (List.mergeSort_perm els elemLe)
  refine .of_inv fun h => .getM_bind ?_
  cases hl : alookup (Node.dec vt (sortElems els)) m.unique with
  | some id => exact .pure (sem_dec h (h.uniq _ _ hl) hs')
  | none =>
    have hpi := push_inv h (.dec vt (sortElems els)) fun _ _ e => by cases e; exact ⟨hs'.1, hs'.2.1⟩
    exact .beforeAllocation_bind
      (pushNode_sound hpi (sem_dec hpi (getElem?_pushed m _) (hs'.mono (pre_pushed m _))))

theorem makeDecisionRaw_sound (b : Budget) (vt : Nat) {m : Mgr} {els : List Elem} {f : Fn}
    (hs : ElsSem m els f) : Sound m (fun id m1 => Sem m1 id f) (makeDecisionRaw b vt els) := by
  unfold makeDecisionRaw
  refine .of_inv fun h => .checkpoint_bind ?_
  dsimp only
  cases ht : trim (els.filter fun e => e.1 ≠ FALSE) with
  | some x => exact .pure (trim_sound h (hs.filter h) ht)
  | none => exact internDecision_sound b vt (hs.filter h)

/-- the induction hypothesis on the two recursive entry points: `Sound` of each, spelled out on states
(`RecSound.apply_sound`, `RecSound.negate_sound` give the `Sound` form) -/
structure RecSound (r : Rec) : Prop where
  apply : ∀ a c op s, MInv s.m → ∀ fa fc, Sem s.m a fa → Sem s.m c fc →
    Post s.m (fun id m1 => Sem m1 id (Fn.op op fa fc)) (r.apply a c op s)
  negate : ∀ a s, MInv s.m → ∀ f, Sem s.m a f → Post s.m (fun id m1 => Sem m1 id (Fn.not f)) (r.negate a s)

/-! `compress`: a grouping stands for an element list, of which `groupBySub` makes a permutation -/

def ungroup (gs : List (Id × List Id)) : List Elem := gs.flatMap fun g => g.2.map fun p => (p, g.1)

theorem ungroup_cons (s : Id) (ps : List Id) (gs : List (Id × List Id)) :
    ungroup ((s, ps) :: gs) = ps.map (fun p => (p, s)) ++ ungroup gs := rfl

theorem ungroup_groupAdd (sub prime : Id) (gs : List (Id × List Id)) :
    (ungroup (groupAdd sub prime gs)).Perm ((prime, sub) :: ungroup gs) := by
  induction gs with
  | nil => exact .refl _
  | cons g gs ih =>
    obtain ⟨s, ps⟩ := g
    rw [groupAdd]
    by_cases hs : s = sub
    · rw [if_pos hs, hs, ungroup_cons, ungroup_cons, List.map_append, List.append_assoc]
      exact List.perm_middle
    · rw [if_neg hs, ungroup_cons, ungroup_cons]
      exact (ih.append_left _).trans List.perm_middle

theorem ungroup_groupBySub (els : List Elem) : (ungroup (groupBySub els)).Perm els := by
  suffices h : ∀ acc, (ungroup (els.foldl (fun acc e => groupAdd e.2 e.1 acc) acc)).Perm (ungroup acc ++ els) from
    h []
  induction els with
  | nil => exact fun acc => by rw [List.append_nil]; exact .refl _
  | cons e es ih =>
    exact fun acc => ((ih _).trans ((ungroup_groupAdd e.2 e.1 acc).append_right es)).trans List.perm_middle.symm

theorem anyD_map_pair (m : Mgr) (σ : Asg) (ps : List Id) (s : Id) :
    anyD m σ (ps.map fun p => (p, s)) = (ps.any (fun p => den m p σ) && den m s σ) := by
  rw [anyD, List.any_map]
  exact any_and_right (f := fun p => den m p σ) (k := den m s σ)

theorem cntP_map_pair (m : Mgr) (σ : Asg) (ps : List Id) (s : Id) :
    cntP m σ (ps.map fun p => (p, s)) = ps.countP fun p => den m p σ := by
  rw [cntP, List.countP_map]; rfl

theorem ite_any_eq_countP {α} {l : List α} {p : α → Bool} (h : l.countP p ≤ 1) :
    (if l.any p then 1 else 0) = l.countP p := by
  by_cases ha : l.any p = true
  · rw [if_pos ha]; exact Nat.le_antisymm (List.countP_pos_iff.2 (List.any_eq_true.1 ha)) h
  · rw [if_neg ha]; exact (List.countP_eq_zero.2 fun a hm hp => ha (List.any_eq_true.2 ⟨a, hm, hp⟩)).symm

section ops
variable {b : Budget} {r : Rec} (hr : RecSound r) {m : Mgr}
include hr

theorem RecSound.apply_sound {a c : Id} {op : Op} {fa fc : Fn} (ha : Sem m a fa) (hc : Sem m c fc) :
    Sound m (fun id m1 => Sem m1 id (Fn.op op fa fc)) (r.apply a c op) :=
  fun hm t => hr.apply a c op ⟨m, t⟩ hm fa fc ha hc

theorem RecSound.negate_sound {a : Id} {f : Fn} (ha : Sem m a f) :
    Sound m (fun id m1 => Sem m1 id (Fn.not f)) (r.negate a) :=
  fun hm t => hr.negate a ⟨m, t⟩ hm f ha

theorem orAll_sound {F : Id → Fn} (ps : List Id) {acc : Id} {facc : Fn} (hacc : Sem m acc facc)
    (hps : ∀ p ∈ ps, Sem m p (F p)) :
    Sound m (fun id m1 => Sem m1 id (fun σ => facc σ || ps.any (fun p => F p σ))) (orAll r acc ps) := by
  induction ps generalizing m acc facc with
  | nil => exact .pure (hacc.congr fun σ => (Bool.or_false _).symm)
  | cons p ps ih =>
    refine (hr.apply_sound hacc (hps p (.head _))).bind fun acc' m1 he1 hacc' => ?_
    refine (ih hacc' fun q hq => (hps q (.tail _ hq)).mono he1.2).mono fun id m2 _ hid => ?_
    exact hid.congr fun σ => by rw [List.any_cons, ← Bool.or_assoc]; rfl

/-- the disjunction of a group's primes counts once however many of them hold, so the number of true primes is
kept only where it was at most 1 -/
theorem mergeGroups_sound (gs : List (Id × List Id)) (hv : ValidEls m (ungroup gs)) :
    Sound m (fun els' m1 => ValidEls m1 els' ∧ ∀ σ, anyD m1 σ els' = anyD m σ (ungroup gs) ∧
      (cntP m σ (ungroup gs) ≤ 1 → cntP m1 σ els' = cntP m σ (ungroup gs))) (mergeGroups r gs) := by
  induction gs generalizing m with
  | nil => exact .pure ⟨.nil, fun _ => ⟨rfl, fun _ => rfl⟩⟩
  | cons g gs ih =>
    obtain ⟨sub, _ | ⟨p, ps⟩⟩ := g
    · exact fun hm _ => Ext.refl hm
    rw [ungroup_cons]
    rw [ungroup_cons] at hv
    obtain ⟨hvp, hvg⟩ := validEls_append.1 hv
    have hps : ∀ q ∈ p :: ps, valid m q ∧ valid m sub := fun q hq => hvp (q, sub) (List.mem_map_of_mem hq)
    refine (orAll_sound hr ps (valid_sem (hps p (.head _)).1)
      fun q hq => valid_sem (hps q (.tail _ hq)).1).bind fun merged m1 he1 hm => ?_
    refine (ih (hvg.mono he1.2)).bind fun tl m2 he2 htl => .pure ⟨?_, fun σ => ?_⟩
    · exact .cons (hm.mono he2.2).1 ((he1.2.trans he2.2).valid (hps p (.head _)).2) htl.1
    · have hd : den m2 merged σ = (p :: ps).any (fun q => den m q σ) := (hm.mono he2.2).2 σ
      have hsub : den m2 sub σ = den m sub σ := den_pre (he1.2.trans he2.2) (hps p (.head _)).2 σ
      obtain ⟨hany, hcnt⟩ := htl.2 σ
      rw [anyD_pre he1.2 hvg] at hany
      rw [cntP_pre he1.2 hvg] at hcnt
      constructor
      · rw [anyD_cons, hany, hd, hsub, anyD_append, anyD_map_pair]
      · rw [cntP_append, cntP_map_pair]
        intro hle
        rw [cntP_cons, hcnt (Nat.le_trans (Nat.le_add_left _ _) hle), hd,
          ite_any_eq_countP (Nat.le_trans (Nat.le_add_right _ _) hle)]

theorem compress_sound {els : List Elem} {f : Fn} (hs : ElsSem m els f) :
    Sound m (fun els' m1 => ElsSem m1 els' f) (compress b r els) := by
  unfold compress
  refine .checkpoint_bind (.ite (fun _ => .pure hs) fun _ => ?_)
  have hg : ElsSem m (ungroup (groupBySub els)) f := hs.perm (ungroup_groupBySub els)
  refine (mergeGroups_sound hr _ hg.1).mono fun els' m1 _ hp => ⟨hp.1, fun σ => ?_, fun σ => ?_⟩
  · rw [(hp.2 σ).2 (Nat.le_of_eq (hg.2.1 σ)), hg.2.1 σ]
  · rw [(hp.2 σ).1, hg.2.2 σ]

theorem uniqueD_sound (vt : Nat) {els : List Elem} {f : Fn} (hs : ElsSem m els f) :
    Sound m (fun id m1 => Sem m1 id f) (uniqueD b r vt els) := by
  unfold uniqueD
  refine .of_inv fun h => .checkpoint_bind ?_
  dsimp only
  cases ht : trim (els.filter fun e => e.1 ≠ FALSE) with
  | some x => exact .pure (trim_sound h (hs.filter h) ht)
  | none =>
    refine (compress_sound hr (hs.filter h)).bind fun els2 m2 he2 hc => ?_
    cases ht2 : trim els2 with
    | some x => exact .pure (trim_sound he2.1 hc ht2)
    | none => exact internDecision_sound b vt hc

theorem expandOther_sound {id : Id} {f : Fn} (hs : Sem m id f) (m' : Mgr) (vt : Nat) :
    Sound m (fun els m1 => ElsSem m1 els f) (expandOther r m' id vt) := by
  unfold expandOther
  refine .of_inv fun h => .ofOption_bind fun left _ => .ofOption_bind fun nv _ => .ite (fun _ => ?_) fun _ => ?_
  · exact (hr.negate_sound hs).bind fun neg m1 he1 hn => .pure (elsSem_pair he1.1 (hs.mono he1.2) hn)
  · exact .pure (elsSem_single h hs)

theorem expand_sound {id : Id} {f : Fn} (hs : Sem m id f) (vt : Nat) :
    Sound m (fun els m1 => ElsSem m1 els f) (expand b r id vt) := by
  unfold expand
  refine .of_inv fun h => .checkpoint_bind (.ite (fun hid => ?_) fun _ => .ite (fun hid => ?_) fun _ => .getM_bind ?_)
  · exact .pure (elsSem_single h ((sem_tt h).congr fun σ => by rw [← hs.2 σ, hid, den_tt h]; rfl))
  · exact .pure (elsSem_single h ((sem_ff h).congr fun σ => by rw [← hs.2 σ, hid, den_ff h]; rfl))
  · have hget := getElem?_of_valid hs.1
    have hO := expandOther_sound hr hs m vt
    cases hnode : node m id with
    | dec dv els =>
      rw [hnode] at hget
      exact .ite (fun _ => .pure ((elsSem_node h hget).congr hs.2)) fun _ => hO
    | ff => exact hO
    | tt => exact hO
    | lit v pol => exact hO

theorem crossInner_sound {op : Op} {pa sa : Id} {fpa fsa : Fn} (bes : List Elem) (hpa : Sem m pa fpa)
    (hsa : Sem m sa fsa) (hv : ValidEls m bes) :
    Sound m (fun hd m1 => ValidEls m1 hd ∧ ∀ σ,
      sel m1 σ hd = if fpa σ then (sel m σ bes).map (op.eval (fsa σ)) else [])
      (crossInner b r op pa sa bes) := by
  induction bes generalizing m with
  | nil => exact .pure ⟨.nil, fun σ => by cases fpa σ <;> rfl⟩
  | cons e rest ih =>
    obtain ⟨pb, sb⟩ := e
    obtain ⟨hvb, hvr⟩ := validEls_cons.1 hv
    refine .checkpoint_bind ((hr.apply_sound hpa (valid_sem hvb.1)).bind fun prime m1 he1 hprime => ?_)
    have hp : ∀ σ, den m1 prime σ = (fpa σ && den m pb σ) := hprime.2
    refine .ite (fun hpf => ?_) fun _ => ?_
    · refine (ih (hpa.mono he1.2) (hsa.mono he1.2) (hvr.mono he1.2)).mono
        fun hd m2 _ hq => ⟨hq.1, fun σ => ?_⟩
      have hz : (fpa σ && den m pb σ) = false := by rw [← hp σ, hpf, den_ff he1.1]
      rw [hq.2 σ, sel_pre he1.2 hvr, sel_cons]
      cases hfa : fpa σ
      · rfl
      · rw [hfa, Bool.true_and] at hz; rw [hz]; rfl
    · refine (hr.apply_sound (hsa.mono he1.2) (valid_sem (he1.2.valid hvb.2))).bind fun sub m2 he2 hsub => ?_
      refine (ih (hpa.mono (he1.2.trans he2.2)) (hsa.mono (he1.2.trans he2.2))
        (hvr.mono (he1.2.trans he2.2))).bind fun tl m3 he3 hq => .pure ⟨?_, fun σ => ?_⟩
      · exact .cons ((hprime.mono (he2.2.trans he3.2)).1) (hsub.mono he3.2).1 hq.1
      · rw [sel_cons, hq.2 σ, sel_pre (he1.2.trans he2.2) hvr, (hprime.mono (he2.2.trans he3.2)).2 σ,
          (hsub.mono he3.2).2 σ, sel_cons, Fn.op_apply, Fn.op_apply, den_pre he1.2 hvb.2]
        cases fpa σ <;> cases den m pb σ <;> rfl

theorem crossOuter_sound {op : Op} (bes aes : List Elem) (hva : ValidEls m aes) (hvb : ValidEls m bes) :
    Sound m (fun res m1 => ValidEls m1 res ∧ ∀ σ, sel m1 σ res =
      (sel m σ aes).flatMap fun x => (sel m σ bes).map (op.eval x))
      (crossOuter b r op bes aes) := by
  induction aes generalizing m with
  | nil => exact .pure ⟨.nil, fun _ => rfl⟩
  | cons a rest ih =>
    obtain ⟨pa, sa⟩ := a
    obtain ⟨hvp, hvr⟩ := validEls_cons.1 hva
    refine (crossInner_sound hr bes (valid_sem hvp.1) (valid_sem hvp.2) hvb).bind fun hd m1 he1 hh => ?_
    refine (ih (hvr.mono he1.2) (hvb.mono he1.2)).bind fun tl m2 he2 ht =>
      .pure ⟨validEls_append.2 ⟨hh.1.mono he2.2, ht.1⟩, fun σ => ?_⟩
    rw [sel_append, sel_pre he2.2 hh.1, hh.2 σ, ht.2 σ, sel_pre he1.2 hvr, sel_pre he1.2 hvb, sel_cons]
    cases den m pa σ <;> rfl

theorem applySame_sound {a c : Id} {op : Op} {fa fc : Fn} (ha : Sem m a fa) (hc : Sem m c fc) (vt : Nat) :
    Sound m (fun id m1 => Sem m1 id (Fn.op op fa fc)) (applySame b r a c op vt) := by
  unfold applySame
  refine (expand_sound hr ha vt).bind fun aes m1 he1 haes => ?_
  refine (expand_sound hr (hc.mono he1.2) vt).bind fun bes m2 he2 hbes => ?_
  refine (crossOuter_sound hr bes aes (haes.mono he2.2).1 hbes.1).bind fun res m3 _ hres => ?_
  refine uniqueD_sound hr vt (.of_sel hres.1 fun σ => ?_)
  rw [hres.2 σ, (haes.mono he2.2).sel_eq σ, hbes.sel_eq σ, Fn.op_apply]; rfl

theorem normalizeTo_sound {id : Id} {f : Fn} (hs : Sem m id f) (target : Nat) :
    Sound m (fun x m1 => Sem m1 x f) (normalizeTo b r id target) := by
  unfold normalizeTo
  refine .of_inv fun h => .checkpoint_bind (.ite (fun _ => .pure hs) fun _ => .getM_bind ?_)
  cases vtreeOf m id with
  | none => exact .pure hs
  | some cur =>
    refine .ite (fun _ => .pure hs) fun _ => .ofOption_bind fun left _ => .ofOption_bind fun right _ =>
      .ite (fun _ => ?_) fun _ => .ite (fun _ => uniqueD_sound hr target (elsSem_single h hs)) fun _ => .pure hs
    exact (hr.negate_sound hs).bind fun neg m1 he1 hn =>
      makeDecisionRaw_sound b target (elsSem_pair he1.1 (hs.mono he1.2) hn)

theorem applyNormalized_sound {a c : Id} {op : Op} {fa fc : Fn} (ha : Sem m a fa) (hc : Sem m c fc) (vt : Nat) :
    Sound m (fun id m1 => Sem m1 id (Fn.op op fa fc)) (applyNormalized b r a c op vt) := by
  unfold applyNormalized
  refine (normalizeTo_sound hr ha vt).bind fun an m1 he1 han => ?_
  refine (normalizeTo_sound hr (hc.mono he1.2) vt).bind fun cn m2 he2 hcn => ?_
  exact applySame_sound hr (han.mono he2.2) hcn vt

theorem applyInner_sound {a c : Id} {op : Op} {fa fc : Fn} (ha : Sem m a fa) (hc : Sem m c fc) :
    Sound m (fun id m1 => Sem m1 id (Fn.op op fa fc)) (applyInner b r a c op) := by
  unfold applyInner
  refine .checkpoint_bind (.getM_bind ?_)
  have hN := fun vt => applyNormalized_sound (b := b) (op := op) hr ha hc vt
  cases vtreeOf m a with
  | none =>
    cases vtreeOf m c with
    | none => exact .fail
    | some v => exact hN v
  | some va =>
    cases vtreeOf m c with
    | none => exact hN va
    | some vc =>
      exact .ite (fun _ => applySame_sound hr ha hc va) fun _ => .ite (fun _ => hN vc) fun _ =>
        .ite (fun _ => hN va) fun _ => .ofOption_bind fun lca _ => hN lca

end ops

/-! the terminal cases of `apply` are the laws of the absorbing element, the neutral element and idempotence,
the same for both connectives -/

def Op.zero : Op → Id
  | .and => FALSE
  | .or => TRUE

def Op.unit : Op → Id
  | .and => TRUE
  | .or => FALSE

theorem applyTerminal_eq (a c : Id) (op : Op) : applyTerminal a c op =
    if a = op.zero ∨ c = op.zero then some op.zero else if a = op.unit then some c
    else if c = op.unit then some a else if a = c then some a else none := by
  cases op <;> rfl

theorem sem_zero {m : Mgr} (h : MInv m) (op : Op) {f : Fn} (g : Fn) (hf : Sem m op.zero f) :
    Sem m op.zero (Fn.op op f g) ∧ Sem m op.zero (Fn.op op g f) := by
  have hz : ∀ σ, f σ = den m op.zero σ := fun σ => (hf.2 σ).symm
  cases op
  · exact ⟨hf.congr fun σ => by rw [Fn.op_apply, hz, Op.zero, den_ff h]; rfl,
      hf.congr fun σ => by rw [Fn.op_apply, hz, Op.zero, den_ff h]; exact (Bool.and_false _).symm⟩
  · exact ⟨hf.congr fun σ => by rw [Fn.op_apply, hz, Op.zero, den_tt h]; rfl,
      hf.congr fun σ => by rw [Fn.op_apply, hz, Op.zero, den_tt h]; exact (Bool.or_true _).symm⟩

theorem op_unit {m : Mgr} (h : MInv m) (op : Op) {f : Fn} (g : Fn) (hf : Sem m op.unit f) (σ : Asg) :
    Fn.op op f g σ = g σ ∧ Fn.op op g f σ = g σ := by
  have hz : f σ = den m op.unit σ := (hf.2 σ).symm
  cases op
  · rw [Fn.op_apply, Fn.op_apply, hz, Op.unit, den_tt h]; exact ⟨rfl, Bool.and_true _⟩
  · rw [Fn.op_apply, Fn.op_apply, hz, Op.unit, den_ff h]; exact ⟨rfl, Bool.or_false _⟩

theorem applyTerminal_sound {m : Mgr} (h : MInv m) {a c x : Id} {op : Op} {fa fc : Fn}
    (ha : Sem m a fa) (hc : Sem m c fc) (ht : applyTerminal a c op = some x) : Sem m x (Fn.op op fa fc) := by
  rw [applyTerminal_eq] at ht
  by_cases hz : a = op.zero ∨ c = op.zero
  · rw [if_pos hz] at ht; cases ht
    rcases hz with hz | hz
    · exact (sem_zero h op fc (hz ▸ ha)).1
    · exact (sem_zero h op fa (hz ▸ hc)).2
  rw [if_neg hz] at ht
  by_cases hau : a = op.unit
  · rw [if_pos hau] at ht; cases ht
    exact hc.congr fun σ => ((op_unit h op fc (hau ▸ ha) σ).1).symm
  rw [if_neg hau] at ht
  by_cases hcu : c = op.unit
  · rw [if_pos hcu] at ht; cases ht
    exact ha.congr fun σ => ((op_unit h op fa (hcu ▸ hc) σ).2).symm
  rw [if_neg hcu] at ht
  by_cases hac : a = c
  · rw [if_pos hac] at ht; cases ht
    refine ha.congr fun σ => ?_
    have : fc σ = fa σ := by rw [← hc.2 σ, ← ha.2 σ, hac]
    rw [Fn.op_apply, this]; cases op
    · exact (Bool.and_self _).symm
    · exact (Bool.or_self _).symm
  · rw [if_neg hac] at ht; cases ht

theorem complementary_sound {m : Mgr} {a c : Id} {fa fc : Fn}
    (ha : Sem m a fa) (hc : Sem m c fc) (hcomp : complementary m a c = true) (σ : Asg) : fc σ = !fa σ := by
  have ga := getElem?_of_valid ha.1
  have gc := getElem?_of_valid hc.1
  unfold complementary at hcomp
  split at hcomp
  · rename_i va pa vc pc hna hnc
    rw [hna] at ga; rw [hnc] at gc
    rw [Bool.and_eq_true, decide_eq_true_eq] at hcomp
    rw [← ha.2 σ, ← hc.2 σ, den_lit ga, den_lit gc, hcomp.1]
    have hp : pa ≠ pc := of_decide_eq_true hcomp.2
    cases pa <;> cases pc
    · exact absurd rfl hp
    · cases σ vc <;> rfl
    · cases σ vc <;> rfl
    · exact absurd rfl hp
  · cases hcomp

/-- both orders of the operands share a cache slot, which is sound because `op` is commutative -/
theorem cacheKey_sem {m : Mgr} {a c : Id} (op : Op) {fa fc : Fn} (ha : Sem m a fa) (hc : Sem m c fc) :
    ∃ a' c' fa' fc', cacheKey a c op = (a', c', op) ∧ Sem m a' fa' ∧ Sem m c' fc' ∧
      ∀ σ, Fn.op op fa' fc' σ = Fn.op op fa fc σ := by
  unfold cacheKey
  by_cases h : a ≤ c
  · rw [if_pos h]; exact ⟨a, c, fa, fc, rfl, ha, hc, fun _ => rfl⟩
  · rw [if_neg h]
    refine ⟨c, a, fc, fa, rfl, hc, ha, fun σ => ?_⟩
    rw [Fn.op_apply, Fn.op_apply]
    cases op
    · exact Bool.and_comm _ _
    · exact Bool.or_comm _ _

section ops
variable {b : Budget} {r : Rec} (hr : RecSound r) {m : Mgr}
include hr

theorem applyBody_sound {a c : Id} {op : Op} {fa fc : Fn} (ha : Sem m a fa) (hc : Sem m c fc) :
    Sound m (fun id m1 => Sem m1 id (Fn.op op fa fc)) (applyBody b r a c op) := by
  unfold applyBody
  refine .of_inv fun h => .checkpoint_bind ?_
  cases ht : applyTerminal a c op with
  | some x => exact .pure (applyTerminal_sound h ha hc ht)
  | none =>
    refine .getM_bind (.ite (fun hcomp => .pure ?_) fun _ => ?_)
    · have hneg := complementary_sound ha hc hcomp
      cases op
      · exact (sem_ff h).congr fun σ => by rw [Fn.op_apply, hneg σ]; cases fa σ <;> rfl
      · exact (sem_tt h).congr fun σ => by rw [Fn.op_apply, hneg σ]; cases fa σ <;> rfl
    · obtain ⟨a', c', fa', fc', hk, ha', hc', hop⟩ := cacheKey_sem op ha hc
      dsimp only
      rw [hk]
      cases hl : alookup (a', c', op) m.applyCache with
      | some cached => exact .pure ((h.acache_sem hl ha' hc').congr hop)
      | none =>
        refine (applyInner_sound hr ha hc).bind fun res m1 he1 hres => ?_
        exact .modifyM_bind (acache_ext he1.1 (ha'.mono he1.2) (hc'.mono he1.2) (hres.congr fun σ => (hop σ).symm))
          (.pure hres)

theorem negateSubs_sound (els : List Elem) (hv : ValidEls m els) :
    Sound m (fun els' m1 => ValidEls m1 els' ∧ ∀ σ, sel m1 σ els' = (sel m σ els).map not) (negateSubs r els) := by
  induction els generalizing m with
  | nil => exact .pure ⟨.nil, fun _ => rfl⟩
  | cons e rest ih =>
    obtain ⟨p, s⟩ := e
    obtain ⟨hve, hvr⟩ := validEls_cons.1 hv
    refine (hr.negate_sound (valid_sem hve.2)).bind fun ns m1 he1 hns => ?_
    refine (ih (hvr.mono he1.2)).bind fun tl m2 he2 htl => .pure ⟨?_, fun σ => ?_⟩
    · exact .cons ((he1.2.trans he2.2).valid hve.1) (hns.mono he2.2).1 htl.1
    · rw [sel_cons, sel_cons, htl.2 σ, sel_pre he1.2 hvr, den_pre (he1.2.trans he2.2) hve.1,
        (hns.mono he2.2).2 σ]
      cases den m p σ <;> rfl

theorem negateNode_sound {a : Id} {f : Fn} (ha : Sem m a f) :
    Sound m (fun id m1 => Sem m1 id (Fn.not f)) (negateNode b r m a) := by
  unfold negateNode
  refine .of_inv fun h => ?_
  have hget := getElem?_of_valid ha.1
  cases hnode : node m a with
  | ff => exact .fail
  | tt => exact .fail
  | lit v pol =>
    rw [hnode] at hget
    refine (literal_sound b v (!pol)).mono fun id m1 _ hid => hid.congr fun σ => ?_
    rw [Fn.not, ← ha.2 σ, den_lit hget, Fn.lit]
    cases σ v <;> cases pol <;> rfl
  | dec vt els =>
    rw [hnode] at hget
    have hels := (elsSem_node h hget).congr ha.2
    refine (negateSubs_sound hr els hels.1).bind fun negs m1 _ hn => ?_
    exact uniqueD_sound hr vt (.of_sel hn.1 fun σ => by rw [hn.2 σ, hels.sel_eq σ]; rfl)

theorem negateBody_sound {a : Id} {f : Fn} (ha : Sem m a f) :
    Sound m (fun id m1 => Sem m1 id (Fn.not f)) (negateBody b r a) := by
  unfold negateBody
  refine .of_inv fun h => .checkpoint_bind (.ite (fun hz => ?_) fun _ => .ite (fun hz => ?_) fun _ => .getM_bind ?_)
  · exact .pure ((sem_tt h).congr fun σ => by rw [Fn.not, ← ha.2 σ, hz, den_ff h]; rfl)
  · exact .pure ((sem_ff h).congr fun σ => by rw [Fn.not, ← ha.2 σ, hz, den_tt h]; rfl)
  · cases hl : alookup a m.negCache with
    | some cached => exact .pure (h.ncache_sem hl ha)
    | none =>
      refine (negateNode_sound hr ha).bind fun res m1 he1 hres => ?_
      exact .modifyM_bind (ncache_ext he1.1 (ha.mono he1.2) hres) (.pure hres)

end ops

theorem recN_sound (b : Budget) (n : Nat) : RecSound (recN b n) := by
  induction n with
  | zero => exact ⟨fun _ _ _ s h _ _ _ _ => Sound.fail h s.ticks, fun _ s h _ _ => Sound.fail h s.ticks⟩
  | succ n ih =>
    exact ⟨fun _ _ _ s h _ _ ha hc => applyBody_sound ih ha hc h s.ticks,
      fun _ s h _ ha => negateBody_sound ih ha h s.ticks⟩

theorem apply_sound (b : Budget) (fuel : Nat) {m : Mgr} {a c : Id} (op : Op) {fa fc : Fn}
    (ha : Sem m a fa) (hc : Sem m c fc) :
    Sound m (fun id m1 => Sem m1 id (Fn.op op fa fc)) (apply b fuel a c op) :=
  (recN_sound b fuel).apply_sound ha hc

theorem negate_sound (b : Budget) (fuel : Nat) {m : Mgr} {a : Id} {f : Fn} (ha : Sem m a f) :
    Sound m (fun id m1 => Sem m1 id (Fn.not f)) (negate b fuel a) :=
  (recN_sound b fuel).negate_sound ha

theorem allFalse_sound (b : Budget) (fuel : Nat) (vs : List Nat) {m : Mgr} {acc : Id} {facc : Fn}
    (hacc : Sem m acc facc) :
    Sound m (fun id m1 => Sem m1 id (fun σ => facc σ && (vs.filter (fun v => σ v)).length == 0))
      (allFalse b fuel acc vs) := by
  induction vs generalizing m acc facc with
  | nil => exact .pure (hacc.congr fun σ => (Bool.and_true _).symm)
  | cons v rest ih =>
    refine (literal_sound b v false).bind fun lf m1 he1 hlf => ?_
    refine (apply_sound b fuel .and (hacc.mono he1.2) hlf).bind fun acc' m2 _ hacc' => ?_
    refine (ih hacc').mono fun id m3 _ hid => hid.congr fun σ => ?_
    rw [Fn.op, Fn.and, Fn.lit, Bool.and_assoc, List.filter_cons]
    cases σ v <;> rfl

theorem exactlyOne_cons (v : Nat) (rest : List Nat) (σ : Asg) :
    Fn.exactlyOne (v :: rest) σ =
      ((σ v && (rest.filter (fun u => σ u)).length == 0) || (!σ v && Fn.exactlyOne rest σ)) := by
  unfold Fn.exactlyOne
  rw [List.filter_cons]
  cases σ v <;> simp

theorem exactlyOne_sound (b : Budget) (fuel : Nat) (vs : List Nat) {m : Mgr} :
    Sound m (fun id m1 => Sem m1 id (Fn.exactlyOne vs)) (exactlyOne b fuel vs) := by
  induction vs generalizing m with
  | nil =>
    exact .of_inv fun h => .checkpoint_bind (.pure (sem_ff h))
  | cons v tl ih =>
    cases tl with
    | nil =>
      refine .checkpoint_bind ((literal_sound b v true).mono fun id m1 _ hid => hid.congr fun σ => ?_)
      rw [Fn.lit, Fn.exactlyOne, List.filter_cons]
      cases σ v <;> rfl
    | cons w rest' =>
      refine .checkpoint_bind ((literal_sound b v true).bind fun litT m1 _ hT => ?_)
      refine (literal_sound b v false).bind fun litF m2 he2 hF => ?_
      refine (allFalse_sound b fuel (w :: rest') (sem_tt he2.1)).bind fun af m3 he3 haf => ?_
      refine (apply_sound b fuel .and ((hT.mono he2.2).mono he3.2) haf).bind fun left m4 he4 hleft => ?_
      refine ih.bind fun rc m5 he5 hrc => ?_
      refine (apply_sound b fuel .and (((hF.mono he3.2).mono he4.2).mono he5.2) hrc).bind
        fun right m6 he6 hright => ?_
      refine (apply_sound b fuel .or ((hleft.mono he5.2).mono he6.2) hright).mono fun id m7 _ hid =>
        hid.congr fun σ => ?_
      rw [exactlyOne_cons, Fn.op_apply, Fn.op_apply, Fn.op_apply, Fn.lit, Fn.lit]
      cases σ v <;> rfl

/-! ### histories -/

/-- one call of the public API.  Handles are the ones the manager issued (`SddId` has a private field, so client
code cannot forge them) and `literal` / `exactly_one` are called for registered variables (`sdd.rs` states this
requirement at `exactly_one`); calls outside that contract are no-ops in `execCmd`. -/
inductive Cmd where
  | var (v : Nat) (p : Rat)
  | weights (v : Nat) (p q : Rat) (k : Kind)
  | lit (b : Budget) (v : Nat) (pol : Bool)
  | app (b : Budget) (fuel : Nat) (a c : Id) (op : Op)
  | neg (b : Budget) (fuel : Nat) (a : Id)
  | xone (b : Budget) (fuel : Nat) (vs : List Nat)

def registered (m : Mgr) (v : Nat) : Bool := (alookup v m.var2vt).isSome

/-- the manager after the call — whatever the call returned (success, exhaustion at any checkpoint, …) -/
def execCmd (m : Mgr) : Cmd → Mgr
  | .var v p => ensureVariable m v p
  | .weights v p q k => ensureVariableWeights m v p q k
  | .lit b v pol => if registered m v then (run (literal b v pol) m).2 else m
  | .app b fuel a c op =>
    if a < m.nodes.length ∧ c < m.nodes.length then (run (apply b fuel a c op) m).2 else m
  | .neg b fuel a => if a < m.nodes.length then (run (negate b fuel a) m).2 else m
  | .xone b fuel vs => if vs.all (registered m) then (run (exactlyOne b fuel vs) m).2 else m

theorem MInv.ite {p : Prop} [Decidable p] {m m' : Mgr} (h : MInv m) (h' : p → MInv m') :
    MInv (if p then m' else m) := by
  by_cases hp : p
  · rw [if_pos hp]; exact h' hp
  · rw [if_neg hp]; exact h

theorem ensureVariableWeights_arena (m : Mgr) (v : Nat) (p q : Rat) (k : Kind) :
    (ensureVariableWeights m v p q k).nodes = m.nodes ∧ (ensureVariableWeights m v p q k).unique = m.unique ∧
    (ensureVariableWeights m v p q k).applyCache = m.applyCache ∧
    (ensureVariableWeights m v p q k).negCache = m.negCache := by
  unfold ensureVariableWeights
  extract_lets m1 m2 leafId m3 internalId
  have h1 : m1.nodes = m.nodes ∧ m1.unique = m.unique ∧ m1.applyCache = m.applyCache ∧
      m1.negCache = m.negCache := by
    by_cases hl : v ≥ m.posW.length
    · rw [show m1 = _ from if_pos hl]; exact ⟨rfl, rfl, rfl, rfl⟩
    · rw [show m1 = _ from if_neg hl]; exact ⟨rfl, rfl, rfl, rfl⟩
  cases alookup v m2.var2vt with
  | some _ => exact h1
  | none =>
    cases m3.vroot with
    | none => exact h1
    | some _ => exact h1

theorem ensureVariableWeights_inv {m : Mgr} (h : MInv m) (v : Nat) (p q : Rat) (k : Kind) :
    MInv (ensureVariableWeights m v p q k) :=
  have he := ensureVariableWeights_arena m v p q k
  h.congr he.1 he.2.1 he.2.2.1 he.2.2.2

theorem MInv_new : MInv Mgr.new := by
  have nodec : ∀ i vt els, Mgr.new.nodes[i]? ≠ some (Node.dec vt els) := fun i vt els h => by
    have : Node.dec vt els ∈ [Node.ff, Node.tt] := List.mem_of_getElem? h
    simp at this
  exact ⟨⟨[], rfl⟩, fun i vt els hi => absurd hi (nodec i vt els), fun i vt els hi => absurd hi (nodec i vt els),
    fun _ _ hk => (by cases hk), fun _ _ _ _ hk => (by cases hk), fun _ _ hk => (by cases hk)⟩

theorem Post.run {α} {m : Mgr} {x : M α} {R : α → Mgr → Prop} (hp : Post m R (x ⟨m, 0⟩)) :
    Ext m (run x m).2 ∧ ∀ r, (run x m).1 = .ok r → R r (run x m).2 := by
  unfold Kolibrie.Sdd.run
  generalize x ⟨m, 0⟩ = out at hp ⊢
  rcases out with ⟨_ | a, s⟩
  · exact ⟨hp, fun _ h => nomatch h⟩
  · exact ⟨hp.1, fun _ h => by cases h; exact hp.2⟩

theorem Sound.run_inv {m : Mgr} {x : M Id} {R : Id → Mgr → Prop} (hx : Sound m R x) (h : MInv m) :
    MInv (run x m).2 := (Post.run (hx h 0)).1.1

theorem Sound.run_ok {m m' : Mgr} {x : M Id} {f : Fn} {r : Id} (hx : Sound m (fun id m1 => Sem m1 id f) x)
    (hm : MInv m) (hrun : run x m = (.ok r, m')) :
    MInv m' ∧ valid m' r ∧ (∀ σ, den m' r σ = f σ) ∧ ∀ h, valid m h → ∀ σ, den m' h σ = den m h σ := by
  obtain ⟨he, hr⟩ := Post.run (hx hm 0)
  rw [hrun] at he hr
  exact ⟨he.1, (hr r rfl).1, (hr r rfl).2, fun _ hv => den_pre he.2 hv⟩

theorem Sound.run_error {m m' : Mgr} {x : M Id} {R : Id → Mgr → Prop} {e : Err} (hx : Sound m R x) (hm : MInv m)
    (hrun : run x m = (.error e, m')) : MInv m' ∧ Pre m m' ∧ ∀ h, valid m h → ∀ σ, den m' h σ = den m h σ := by
  obtain ⟨he, _⟩ := Post.run (hx hm 0)
  rw [hrun] at he
  exact ⟨he.1, he.2, fun _ hv => den_pre he.2 hv⟩

theorem Sound.run_agree {m m1 m2 : Mgr} {x y : M Id} {f : Fn} {r1 r2 : Id} (h : MInv m)
    (hx : Sound m (fun id m' => Sem m' id f) x) (hy : Sound m (fun id m' => Sem m' id f) y)
    (h1 : run x m = (.ok r1, m1)) (h2 : run y m = (.ok r2, m2)) (σ : Asg) : den m1 r1 σ = den m2 r2 σ :=
  ((hx.run_ok h h1).2.2.1 σ).trans ((hy.run_ok h h2).2.2.1 σ).symm

theorem execCmd_inv {m : Mgr} (h : MInv m) (c : Cmd) : MInv (execCmd m c) := by
  cases c with
  | var v p => exact ensureVariableWeights_inv h v _ _ _
  | weights v p q k => exact ensureVariableWeights_inv h v p q k
  | lit b v pol => exact h.ite fun _ => (literal_sound b v pol).run_inv h
  | app b fuel a c op => exact h.ite fun hv => (apply_sound b fuel op (valid_sem hv.1) (valid_sem hv.2)).run_inv h
  | neg b fuel a => exact h.ite fun hv => (negate_sound b fuel (valid_sem hv)).run_inv h
  | xone b fuel vs => exact h.ite fun _ => (exactlyOne_sound b fuel vs).run_inv h

theorem execCmds_inv {m : Mgr} (h : MInv m) (cmds : List Cmd) : MInv (cmds.foldl execCmd m) := by
  induction cmds generalizing m with
  | nil => exact h
  | cons c cs ih => exact ih (execCmd_inv h c)

end Kolibrie.Sdd
