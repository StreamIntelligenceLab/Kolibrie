import Kolibrie.Lemmas.Engine
/-! Scans are input-independent: scanning with incoming bindings = joining the incoming bindings with the
    scan's own solutions.  Every row a scan produces is the result of a chain of term matches (graph variable,
    subject, predicate, object) run on the incoming row, and a chain run on a row is the chain run on the empty row
    merged into it. -/
namespace Kolibrie.Engine
open List

theorem matchTerm_const (c x : Val) (b : Row) : matchTerm (.const c) x b = if c == x then some b else none := rfl

theorem matchTerm_var_none (v : Var) (x : Val) (b : Row) (h : Row.get b v = none) :
    matchTerm (.var v) x b = some (Row.insert b v x) := by
  simp [matchTerm, h]

theorem matchTerm_var_some (v : Var) (x y : Val) (b : Row) (h : Row.get b v = some y) :
    matchTerm (.var v) x b = if y == x then some b else none := by
  simp [matchTerm, h]

theorem matchTerm_some {t : Term} {x : Val} {b b' : Row} (h : matchTerm t x b = some b') :
    (b' = b ∧ boundOf t b = some x) ∨ ∃ v, t = .var v ∧ Row.get b v = none ∧ b' = Row.insert b v x := by
  revert h
  fun_cases matchTerm t x b with
  | case1 c hc => rintro ⟨⟩; exact .inl ⟨rfl, congrArg some (beq_iff_eq.1 hc)⟩
  | case2 c hc => rintro ⟨⟩
  | case3 v y hg hyx => rintro ⟨⟩; exact .inl ⟨rfl, hg.trans (congrArg some (beq_iff_eq.1 hyx))⟩
  | case4 v y hg hyx => rintro ⟨⟩
  | case5 v hg => rintro ⟨⟩; exact .inr ⟨v, rfl, hg, rfl⟩

theorem matchTerm_wf (t : Term) (x : Val) (b b' : Row) (hb : Row.WF b) (h : matchTerm t x b = some b') :
    Row.WF b' := by
  rcases matchTerm_some h with ⟨rfl, _⟩ | ⟨v, _, _, rfl⟩
  · exact hb
  · exact Row.wf_insert b v x hb

theorem matchTerm_extends (t : Term) (x : Val) (b b' : Row) (h : matchTerm t x b = some b') : Extends b b' := by
  rcases matchTerm_some h with ⟨rfl, _⟩ | ⟨v, _, hg, rfl⟩
  · exact extends_refl _
  · exact extends_insert b v x hg

theorem matchTerm_binds (v : Var) (x : Val) (b b' : Row) (h : matchTerm (.var v) x b = some b') :
    Row.get b' v = some x := by
  rcases matchTerm_some h with ⟨rfl, hb⟩ | ⟨w, hw, _, rfl⟩
  · exact hb
  · cases hw; exact Row.get_insert_self b v x

theorem matchTerm_none_of_bound (t : Term) (x y : Val) (b : Row) (hb : boundOf t b = some y) (hne : y ≠ x) :
    matchTerm t x b = none := by
  cases h : matchTerm t x b with
  | none => rfl
  | some b' =>
    rcases matchTerm_some h with ⟨_, hx⟩ | ⟨v, rfl, hg, _⟩
    · rw [hb] at hx; cases hx; exact absurd rfl hne
    · rw [show boundOf (.var v) b = Row.get b v from rfl, hg] at hb; cases hb

theorem boundOf_extends {b b' : Row} (h : Extends b b') (t : Term) (y : Val) (hb : boundOf t b = some y) :
    boundOf t b' = some y := by
  cases t with
  | const c => exact hb
  | var v => exact h v y hb

theorem wf_single (v : Var) (x : Val) : Row.WF [(v, x)] := by simp [Row.WF]

theorem compat_single (b : Row) (v : Var) (x : Val) (h : ∀ y, Row.get b v = some y → y = x) : compat b [(v, x)] := by
  intro w a c ha hc
  rw [Row.get_cons] at hc
  by_cases hw : v = w
  · subst hw; rw [if_pos rfl] at hc; cases hc; exact h a ha
  · rw [if_neg hw] at hc; cases hc

theorem mergeRows_single (b : Row) (hb : Row.WF b) (v : Var) (x : Val) :
    mergeRows b [(v, x)] = matchTerm (.var v) x b := by
  have hu : unionRows b [(v, x)] = (match Row.get b v with | some _ => b | none => Row.insert b v x) := rfl
  have hc := fun h => mergeRows_some b _ hb (compat_single b v x h)
  cases hg : Row.get b v with
  | none => rw [hc (fun y hy => by rw [hg] at hy; cases hy), matchTerm_var_none v x b hg, hu, hg]
  | some y =>
    rw [matchTerm_var_some v x y b hg]
    by_cases hyx : y = x
    · rw [hc (fun y' hy' => by rw [hg] at hy'; cases hy'; exact hyx), if_pos (beq_iff_eq.2 hyx), hu, hg]
    · rw [mergeRows_conflict b _ v y x hg (by rw [Row.get_cons, if_pos rfl]) hyx, if_neg (fun h => hyx (beq_iff_eq.1 h))]

theorem matchTerm_seed (t : Term) (x : Val) (seed : Row) (hs : Row.WF seed) :
    matchTerm t x seed = (matchTerm t x []).bind (fun m => mergeRows seed m) := by
  cases t with
  | const c =>
    rw [matchTerm_const, matchTerm_const]
    by_cases h : (c == x) = true
    · rw [if_pos h, if_pos h, Option.bind_some, mergeRows_nil_right]
    · rw [if_neg h, if_neg h]; rfl
  | var v => exact (mergeRows_single seed hs v x).symm

theorem matchTerm_step (t : Term) (x : Val) (seed a : Row) (hs : Row.WF seed) (ha : Row.WF a) :
    (mergeRows seed a).bind (matchTerm t x) = (matchTerm t x a).bind (mergeRows seed) := by
  have hsa : (mergeRows seed a).bind (matchTerm t x) =
      (mergeRows seed a).bind (fun sa => (matchTerm t x []).bind (mergeRows sa)) := by
    cases hm : mergeRows seed a with
    | none => rfl
    | some sa => exact matchTerm_seed t x sa (mergeRows_wf seed a sa hs hm)
  rw [hsa, matchTerm_seed t x a ha]
  cases matchTerm t x [] with
  | none => cases mergeRows seed a <;> rfl
  | some m => exact mergeRows_assoc seed a m hs ha

def runChain (ts : List (Term × Val)) (row : Row) : Option Row :=
  ts.foldlM (fun acc tx => matchTerm tx.1 tx.2 acc) row

theorem runChain_nil (row : Row) : runChain [] row = some row := rfl

theorem runChain_cons (tx : Term × Val) (ts : List (Term × Val)) (row : Row) :
    runChain (tx :: ts) row = (matchTerm tx.1 tx.2 row).bind (fun r => runChain ts r) := rfl

theorem runChain_cons_some {tx : Term × Val} {ts : List (Term × Val)} {row b : Row} :
    runChain (tx :: ts) row = some b ↔ ∃ r', matchTerm tx.1 tx.2 row = some r' ∧ runChain ts r' = some b := by
  rw [runChain_cons, Option.bind_eq_some_iff]

theorem runChain_step (ts : List (Term × Val)) (seed a : Row) (hs : Row.WF seed) (ha : Row.WF a) :
    (mergeRows seed a).bind (runChain ts) = (runChain ts a).bind (mergeRows seed) := by
  induction ts generalizing a with
  | nil => rw [runChain_nil, Option.bind_some]; cases mergeRows seed a <;> rfl
  | cons tx rest ih =>
    have e : runChain (tx :: rest) = fun r => (matchTerm tx.1 tx.2 r).bind (runChain rest) := rfl
    rw [e, ← Option.bind_assoc, matchTerm_step tx.1 tx.2 seed a hs ha, Option.bind_assoc, Option.bind_assoc]
    cases hm : matchTerm tx.1 tx.2 a with
    | none => rfl
    | some a' => exact ih a' (matchTerm_wf _ _ a a' ha hm)

theorem runChain_seed (ts : List (Term × Val)) (row : Row) (hr : Row.WF row) :
    runChain ts row = (runChain ts []).bind (mergeRows row) := by
  rw [← runChain_step ts row [] hr Row.wf_nil, mergeRows_nil_right]; rfl

theorem runChain_wf (ts : List (Term × Val)) (row b : Row) (hr : Row.WF row) (h : runChain ts row = some b) :
    Row.WF b := by
  induction ts generalizing row with
  | nil => cases h; exact hr
  | cons tx rest ih =>
    obtain ⟨r', hm, h'⟩ := runChain_cons_some.1 h
    exact ih r' (matchTerm_wf _ _ row r' hr hm) h'

theorem runChain_extends (ts : List (Term × Val)) (row b : Row) (h : runChain ts row = some b) : Extends row b := by
  induction ts generalizing row with
  | nil => cases h; exact extends_refl _
  | cons tx rest ih =>
    obtain ⟨r', hm, h'⟩ := runChain_cons_some.1 h
    exact extends_trans (matchTerm_extends _ _ _ _ hm) (ih r' h')

theorem runChain_binds (ts : List (Term × Val)) (row b : Row) (h : runChain ts row = some b)
    (v : Var) (x : Val) (hm : (Term.var v, x) ∈ ts) : (Row.get b v).isSome = true := by
  induction ts generalizing row with
  | nil => cases hm
  | cons tx rest ih =>
    obtain ⟨r', hmt, h'⟩ := runChain_cons_some.1 h
    rcases mem_cons.1 hm with rfl | hm'
    · rw [runChain_extends rest r' b h' v x (matchTerm_binds v x row r' hmt)]; rfl
    · exact ih r' h' hm'

theorem runChain_none_of_bound (ts : List (Term × Val)) (row : Row) (t : Term) (x y : Val)
    (hm : (t, x) ∈ ts) (hb : boundOf t row = some y) (hne : y ≠ x) : runChain ts row = none := by
  induction ts generalizing row with
  | nil => cases hm
  | cons tx rest ih =>
    rw [runChain_cons]
    rcases mem_cons.1 hm with rfl | hm'
    · rw [matchTerm_none_of_bound t x y row hb hne]; rfl
    · cases hmt : matchTerm tx.1 tx.2 row with
      | none => rfl
      | some row' => exact ih row' hm' (boundOf_extends (matchTerm_extends _ _ _ _ hmt) t y hb)

theorem matchTriple_eq_chain (pat : QPat) (s p o : Val) (seed : Row) :
    matchTriple pat s p o seed = runChain [(pat.s, s), (pat.p, p), (pat.o, o)] seed := by
  simp only [matchTriple, runChain_cons, runChain_nil, Option.bind_fun_some]

abbrev Triple := Val × Val × Val
def tr (q : Quad) : Triple := (q.s, q.p, q.o)

/-- the matches a scan performs on one candidate triple: the graph variable (when the scan binds one), then
    subject, predicate and object -/
def chainOf (pat : QPat) (gb : Option (Var × Val)) (t : Triple) : List (Term × Val) :=
  (match gb with | none => [] | some (v, gv) => [(Term.var v, gv)]) ++ [(pat.s, t.1), (pat.p, t.2.1), (pat.o, t.2.2)]

def scanTriples (pat : QPat) (gb : Option (Var × Val)) (ts : List Triple) (row : Row) : List Row :=
  ts.filterMap (fun t => runChain (chainOf pat gb t) row)

theorem scanTriples_seed (pat : QPat) (gb : Option (Var × Val)) (ts : List Triple) (row : Row) (hr : Row.WF row) :
    scanTriples pat gb ts row = (scanTriples pat gb ts []).filterMap (mergeRows row) := by
  unfold scanTriples
  rw [filterMap_filterMap]
  exact filterMap_congr_left ts _ _ fun t _ => runChain_seed _ row hr

theorem mem_scanTriples {pat : QPat} {gb : Option (Var × Val)} {ts : List Triple} {row b : Row}
    (h : b ∈ scanTriples pat gb ts row) : ∃ t, runChain (chainOf pat gb t) row = some b :=
  let ⟨t, _, ht⟩ := mem_filterMap.1 h; ⟨t, ht⟩

/-- key constraints of a scan (`query_graph`'s index lookup), on triples: a term of the pattern that the row fixes to a
    value must meet that value -/
def keysOk (pat : QPat) (row : Row) (t : Triple) : Bool :=
  [(pat.s, t.1), (pat.p, t.2.1), (pat.o, t.2.2)].all fun tx => keyOk (boundOf tx.1 row) tx.2

theorem keyOk_false (k : Option Val) (x : Val) (h : keyOk k x = false) : ∃ y, k = some y ∧ y ≠ x := by
  cases k with
  | none => cases h
  | some y => exact ⟨y, rfl, by simpa [keyOk] using h⟩

/-- the index lookup of a scan is only an optimisation: a triple it excludes fails to match anyway -/
theorem runChain_none_of_keys (pat : QPat) (gb : Option (Var × Val)) (row : Row) (t : Triple)
    (h : keysOk pat row t = false) : runChain (chainOf pat gb t) row = none := by
  obtain ⟨tx, hm, hk⟩ := all_eq_false.1 h
  obtain ⟨y, hy, hne⟩ := keyOk_false _ _ (eq_false_of_ne_true hk)
  exact runChain_none_of_bound _ row tx.1 tx.2 y (mem_append_right _ hm) hy hne

theorem scanTriples_filter_keys (pat : QPat) (gb : Option (Var × Val)) (ts : List Triple) (row : Row) :
    scanTriples pat gb (ts.filter (keysOk pat row)) row = scanTriples pat gb ts row :=
  filterMap_filter_drop ts _ _ fun t _ => runChain_none_of_keys pat gb row t

def graphTriples (db : DB) (g : Option Val) : List Triple := (db.quads.filter (fun q => q.g == g)).map tr

theorem queryGraph_triples (db : DB) (g : Option Val) (pat : QPat) (row : Row) :
    (queryGraph db g pat row).map tr = (graphTriples db g).filter (keysOk pat row) := by
  unfold queryGraph graphTriples
  rw [filter_map, filter_filter]
  congr 1
  exact filter_congr fun q _ => by
    show _ = (keysOk pat row (tr q) && (q.g == g))
    rw [Bool.and_comm (keysOk pat row (tr q))]; simp only [keysOk, tr, all_cons, all_nil, Bool.and_true, Bool.and_assoc]

theorem scanOneGraph_eq (db : DB) (pat : QPat) (g : Option Val) (gb : Option (Var × Val)) (row : Row) :
    scanOneGraph db pat g gb row = scanTriples pat gb (graphTriples db g) row := by
  rw [← scanTriples_filter_keys, ← queryGraph_triples]
  unfold scanOneGraph scanTriples
  rw [filterMap_map]
  refine filterMap_congr_left _ _ _ fun q _ => ?_
  cases gb with
  | none => exact matchTriple_eq_chain pat q.s q.p q.o row
  | some vg =>
    obtain ⟨v, gv⟩ := vg
    have hseed : graphSeed (some (v, gv)) row = matchTerm (.var v) gv row := by
      cases hg : Row.get row v <;> simp [graphSeed, matchTerm, hg]
    rw [hseed]
    show _ = (matchTerm (.var v) gv row).bind (runChain _)
    exact congrArg _ (funext fun sd => matchTriple_eq_chain pat q.s q.p q.o sd)

theorem eraseDups_filter {α} [BEq α] [LawfulBEq α] (l : List α) (p : α → Bool) :
    (l.filter p).eraseDups = l.eraseDups.filter p := by
  induction l using eraseDups_induct with
  | nil => rfl
  | cons a as ih =>
    rw [eraseDups_cons]
    by_cases hp : p a = true
    · rw [filter_cons, if_pos hp, eraseDups_cons, filter_cons, if_pos hp, ← ih, filter_filter, filter_filter]
      exact congrArg _ (congrArg eraseDups (filter_congr fun x _ => Bool.and_comm _ _))
    · -- an element that passes `p` differs from `a`
      rw [filter_cons, if_neg hp, filter_cons, if_neg hp, ← ih, filter_filter]
      refine congrArg eraseDups (filter_congr fun x _ => ?_)
      by_cases hx : p x = true
      · rw [hx, Bool.true_and, beq_false_of_ne (fun e : x = a => hp (e ▸ hx))]; rfl
      · rw [eq_false_of_ne_true hx]; rfl

/-- the distinct triples of the merged default graph -/
def defaultTriples (db : DB) (view : View) : List Triple :=
  (view.dflt.flatMap (fun g => (db.quads.filter (fun q => q.g == g)).map tr)).eraseDups

theorem scanDefault_eq (db : DB) (pat : QPat) (view : View) (row : Row) :
    scanDefault db pat view row = scanTriples pat none (defaultTriples db view) row := by
  have h : (view.dflt.flatMap fun g => (queryGraph db g pat row).map fun q => (q.s, q.p, q.o)).eraseDups =
      (defaultTriples db view).filter (keysOk pat row) := by
    unfold defaultTriples
    rw [← eraseDups_filter, filter_flatMap]
    exact congrArg _ (flatMap_congr_left _ _ _ fun g _ => queryGraph_triples db g pat row)
  unfold scanDefault
  simp only [h]
  rw [← scanTriples_filter_keys pat none (defaultTriples db view)]
  exact filterMap_congr_left _ _ _ fun t _ => matchTriple_eq_chain pat t.1 t.2.1 t.2.2 row

theorem flatMap_single_of_nodup {α β} [DecidableEq α] (L : List α) (hnd : L.Nodup) (g : α) (f : α → List β)
    (h : ∀ g' ∈ L, g' ≠ g → f g' = []) : L.flatMap f = if g ∈ L then f g else [] := by
  induction L with
  | nil => rfl
  | cons a L ih =>
    have ih := ih (nodup_cons.1 hnd).2 (fun g' hg' hne => h g' (mem_cons_of_mem _ hg') hne)
    rw [flatMap_cons, ih]
    by_cases hag : a = g
    · subst hag
      rw [if_neg (nodup_cons.1 hnd).1, if_pos mem_cons_self, append_nil]
    · rw [h a mem_cons_self hag, nil_append]
      by_cases hm : g ∈ L
      · rw [if_pos hm, if_pos (mem_cons_of_mem _ hm)]
      · rw [if_neg hm, if_neg (fun x => hm ((mem_cons.1 x).resolve_left (Ne.symm hag)))]

theorem visibleNamed_iff (db : DB) (ctx : Ctx) (g : Val) :
    visibleNamed db ctx g = true ↔ g ∈ ctx.view.named.filter (fun g => db.graphExists g) := by
  simp [visibleNamed, mem_filter]

/-- the visible named graphs are a set: a function that is empty off `g` contributes `g`'s block, if `g` is visible -/
theorem flatMap_visible_single {β} (db : DB) (ctx : Ctx) (hn : ctx.view.named.Nodup) (g : Val) (f : Val → List β)
    (h : ∀ g', g' ≠ g → f g' = []) :
    (ctx.view.named.filter fun g => db.graphExists g).flatMap f = if visibleNamed db ctx g then f g else [] := by
  rw [flatMap_single_of_nodup _ (List.Pairwise.filter _ hn) g f fun g' _ => h g']
  exact ite_cond_congr (propext (visibleNamed_iff db ctx g)).symm

theorem mem_scanRow {db : DB} {ctx : Ctx} {pat : QPat} {row b : Row} (h : b ∈ scanRow db ctx pat row) :
    ∃ gb t, runChain (chainOf pat gb t) row = some b := by
  have one : ∀ g gb, b ∈ scanOneGraph db pat g gb row → ∃ gb t, runChain (chainOf pat gb t) row = some b :=
    fun g gb hb => ⟨gb, mem_scanTriples (scanOneGraph_eq db pat g gb row ▸ hb)⟩
  revert h
  fun_cases scanRow db ctx pat row with
  | case1 g hg ha => exact one _ _
  | case2 hg ha => exact fun h => ⟨none, mem_scanTriples (scanDefault_eq db pat ctx.view row ▸ h)⟩
  | case3 g hg hv => exact one _ _
  | case4 g hg hv => exact fun h => nomatch h
  | case5 v g hg hr hv => exact one _ _
  | case6 v g hg hr hv => exact fun h => nomatch h
  | case7 v hg hr => exact fun h => let ⟨g, _, hb⟩ := mem_flatMap.1 h; one _ _ hb

theorem scan_wf (db : DB) (ctx : Ctx) (pat : QPat) (inc : List Row) (hi : AllWF inc) :
    AllWF (scan db ctx pat inc) :=
  allWF_flatMap _ _ fun row hrow b hb =>
    let ⟨_, _, h⟩ := mem_scanRow hb; runChain_wf _ row b (hi row hrow) h

theorem scanOneGraph_seed (db : DB) (pat : QPat) (g : Option Val) (gb : Option (Var × Val)) (row : Row)
    (hr : Row.WF row) :
    scanOneGraph db pat g gb row = (scanOneGraph db pat g gb []).filterMap (mergeRows row) := by
  rw [scanOneGraph_eq, scanOneGraph_eq]; exact scanTriples_seed pat gb _ row hr

theorem scanOneGraph_other_graph (db : DB) (pat : QPat) (g' g : Val) (v : Var) (row : Row)
    (hv : Row.get row v = some g) (hne : g' ≠ g) : scanOneGraph db pat (some g') (some (v, g')) row = [] := by
  rw [scanOneGraph_eq]
  refine filterMap_eq_nil_iff.2 fun t _ => ?_
  exact runChain_none_of_bound _ row (.var v) g' g (mem_append_left _ mem_cons_self) hv (Ne.symm hne)

theorem scanRow_seed (db : DB) (ctx : Ctx) (pat : QPat) (row : Row) (hr : Row.WF row)
    (hn : ctx.view.named.Nodup) :
    scanRow db ctx pat row = (scanRow db ctx pat []).filterMap (mergeRows row) := by
  unfold scanRow
  cases pat.g with
  | dflt =>
    cases ctx.active with
    | none =>
      dsimp only
      rw [scanDefault_eq, scanDefault_eq]; exact scanTriples_seed pat none _ row hr
    | some g => exact scanOneGraph_seed db pat (some g) none row hr
  | named g =>
    dsimp only
    by_cases hvis : visibleNamed db ctx g = true
    · rw [if_pos hvis, if_pos hvis]; exact scanOneGraph_seed db pat (some g) none row hr
    · rw [if_neg hvis, if_neg hvis]; rfl
  | var v =>
    -- on the empty row the scan enumerates all visible graphs; a row that binds `v` keeps the block of its graph only
    simp only [Row.get_nil]
    rw [filterMap_flatMap, ← flatMap_congr_left _ _ _ fun g' _ => scanOneGraph_seed db pat (some g') (some (v, g')) row hr]
    cases hv : Row.get row v with
    | none => rfl
    | some g =>
      dsimp only
      rw [flatMap_visible_single db ctx hn g _ fun g' hne => scanOneGraph_other_graph db pat g' g v row hv hne]

theorem scan_seed (db : DB) (ctx : Ctx) (pat : QPat) (inc : List Row) (hi : AllWF inc)
    (hn : ctx.view.named.Nodup) :
    scan db ctx pat inc = nlJoin inc (scan db ctx pat [[]]) := by
  unfold scan nlJoin
  rw [flatMap_singleton]
  exact flatMap_congr_left _ _ _ fun row hrow => scanRow_seed db ctx pat row (hi row hrow) hn

end Kolibrie.Engine
