import Kolibrie.Lemmas.Repairs
/-! Correctness of the work-list search of `compute_repairs` followed by the final maximality filter (C19). -/
namespace Kolibrie.Repairs
open Kolibrie.Terms Kolibrie.RepairSpec

section
variable {α : Type} [DecidableEq α]

theorem sup_iff {a b : List α} : sup a b = true ↔ b ⊆ a := by
  simp [sup, List.subset_def]

theorem setEq_iff {a b : List α} : setEq a b = true ↔ b ⊆ a ∧ a ⊆ b := by
  simp [setEq, sup_iff]

/-- `S` is represented in the list `R` (as a set) -/
def Repr' (R : List (List α)) (S : List α) : Prop := ∃ r ∈ R, S ⊆ r ∧ r ⊆ S

/-- coverage of a repair `S` below a processed set `T` -/
def Cov (st : St α) (S T : List α) : Prop :=
  Repr' st.repairs S ∨ ∃ T' ∈ st.queue, S ⊆ T' ∧ T' ⊆ T ∧ T' ∉ st.seen

structure Inv (viol : List α → Bool) (F : List α) (st : St α) : Prop where
  rep_sub : ∀ r ∈ st.repairs, r ⊆ F ∧ viol r = false
  q_sub : ∀ q ∈ st.queue, q ⊆ F ∧ q.Nodup
  cov : ∀ S, IsRepair viol F S → ∀ T, (T = F ∨ T ∈ st.seen) → S ⊆ T → Cov st S T

omit [DecidableEq α] in
theorem inv_init (viol : List α → Bool) (F : List α) (hF : F.Nodup) : Inv viol F ⟨[], [F], []⟩ := by
  refine ⟨by simp, by simp [hF], ?_⟩
  intro S _ T hT hST
  rcases hT with rfl | hT
  · exact Or.inr ⟨T, by simp, hST, List.Subset.refl _, by simp⟩
  · simp at hT

/-- After `cur` is popped and marked as seen, coverage carries over.  A queued witness other than `cur` is still
    queued and unseen.  Where `cur` was the witness, or is the newly seen set, the branch taken has to cover every
    repair below `cur` (`key`). -/
theorem cov_pop {viol : List α → Bool} {F : List α} {st : St α} {cur : List α} {rest reps' q' : List (List α)}
    (hq : st.queue = cur :: rest)
    (hcov : ∀ S, IsRepair viol F S → ∀ T, (T = F ∨ T ∈ st.seen) → S ⊆ T → Cov st S T)
    (hreps : ∀ S, Repr' st.repairs S → Repr' reps' S) (hrest : ∀ q ∈ rest, q ∈ q')
    (key : ∀ S, IsRepair viol F S → S ⊆ cur → ∀ T, cur ⊆ T → Cov ⟨reps', q', cur :: st.seen⟩ S T) :
    ∀ S, IsRepair viol F S → ∀ T, (T = F ∨ T ∈ cur :: st.seen) → S ⊆ T → Cov ⟨reps', q', cur :: st.seen⟩ S T := by
  intro S hS T hT hST
  have old : (T = F ∨ T ∈ st.seen) → Cov ⟨reps', q', cur :: st.seen⟩ S T := fun hT => by
    rcases hcov S hS T hT hST with h | ⟨T', hT', h1, h2, h3⟩
    · exact .inl (hreps S h)
    · by_cases hEq : T' = cur
      · exact key S hS (hEq ▸ h1) T (hEq ▸ h2)
      · rw [hq] at hT'
        exact .inr ⟨T', hrest T' ((List.mem_cons.1 hT').resolve_left hEq), h1, h2,
          fun h => (List.mem_cons.1 h).elim hEq h3⟩
  rcases hT with hT | hT
  · exact old (.inl hT)
  · rcases List.mem_cons.1 hT with rfl | hT
    · exact key S hS hST T (List.Subset.refl _)
    · exact old (.inr hT)

theorem inv_step {viol : List α → Bool} {F : List α} (hv : SetInv viol) {st : St α} {cur : List α}
    {rest : List (List α)} (hq : st.queue = cur :: rest) (inv : Inv viol F st) :
    Inv viol F (searchStep viol cur rest st) := by
  obtain ⟨hrep, hqs, hcov⟩ := inv
  have hcurF : cur ⊆ F ∧ cur.Nodup := hqs cur (hq ▸ List.mem_cons_self)
  have hrestq : ∀ q ∈ rest, q ⊆ F ∧ q.Nodup := fun q h => hqs q (hq ▸ List.mem_cons_of_mem _ h)
  unfold searchStep
  by_cases hseen : cur ∈ st.seen
  · -- already processed: a witness of coverage is unseen, so it is not `cur`
    rw [if_pos hseen]
    refine ⟨hrep, hrestq, fun S hS T hT hST => ?_⟩
    rcases hcov S hS T hT hST with h | ⟨T', hT', h1, h2, h3⟩
    · exact .inl h
    · rw [hq] at hT'
      exact .inr ⟨T', (List.mem_cons.1 hT').resolve_left fun e => h3 (e ▸ hseen), h1, h2, h3⟩
  · rw [if_neg hseen]
    by_cases hviol : viol cur = true
    · -- inconsistent: a repair below `cur` misses some `f ∈ cur`, so it is below the child `cur − f`
      simp only [hviol, Bool.not_true, Bool.false_eq_true, if_false]
      refine ⟨hrep, fun q hqm => ?_, cov_pop hq hcov (fun _ h => h) (fun q h => List.mem_append_right _ h) ?_⟩
      · rcases List.mem_append.1 hqm with h | h
        · obtain ⟨f, _, rfl⟩ := List.mem_map.1 (List.mem_filter.1 (List.mem_reverse.1 h)).1
          exact ⟨fun x hx => hcurF.1 (List.erase_subset hx), hcurF.2.erase f⟩
        · exact hrestq q h
      · intro S hS hScur T hcurT
        have hnot : ¬ cur ⊆ S := fun h => by
          rw [hv cur S fun x => ⟨fun hx => h hx, fun hx => hScur hx⟩, hS.2.1] at hviol
          cases hviol
        obtain ⟨f, hf⟩ := Classical.not_forall.mp hnot
        obtain ⟨hfc, hfS⟩ := Classical.not_imp.mp hf
        have hSchild : S ⊆ cur.erase f := fun x hx =>
          (List.mem_erase_of_ne fun (e : x = f) => hfS (e ▸ hx)).2 (hScur hx)
        have hchildT : cur.erase f ⊆ T := fun x hx => hcurT (List.erase_subset hx)
        have hfchild : f ∉ cur.erase f := fun h => (hcurF.2.mem_erase_iff.1 h).1 rfl
        by_cases hcs : cur.erase f ∈ cur :: st.seen
        · -- the child was seen earlier (it is not `cur`, which contains `f`): use what covers it
          have hcs' : cur.erase f ∈ st.seen :=
            (List.mem_cons.1 hcs).resolve_left fun e => hfchild (by rw [e]; exact hfc)
          rcases hcov S hS (cur.erase f) (.inr hcs') hSchild with h | ⟨T', hT', h1, h2, h3⟩
          · exact .inl h
          · have hT'ne : T' ≠ cur := fun e => hfchild (h2 (e ▸ hfc))
            rw [hq] at hT'
            exact .inr ⟨T', List.mem_append_right _ ((List.mem_cons.1 hT').resolve_left hT'ne), h1,
              fun x hx => hchildT (h2 hx), fun h => (List.mem_cons.1 h).elim hT'ne h3⟩
        · refine .inr ⟨cur.erase f, List.mem_append_left _ (List.mem_reverse.2 (List.mem_filter.2 ⟨?_, ?_⟩)),
            hSchild, hchildT, hcs⟩
          · exact List.mem_map.2 ⟨f, hfc, rfl⟩
          · exact decide_eq_true hcs
    · -- consistent: a repair below `cur` equals `cur` as a set, and `cur` is recorded unless a recorded set contains it
      have hcons : viol cur = false := Bool.not_eq_true _ ▸ hviol
      simp only [hcons, Bool.not_false, if_true]
      cases hmax : st.repairs.all fun r => !(sup r cur) || setEq r cur
      · -- a recorded `r` contains `cur`, so it contains every repair below `cur` and, being consistent, equals it as a set
        refine ⟨hrep, hrestq, cov_pop hq hcov (fun _ h => h) (fun _ h => h) fun S hS hScur _ _ => .inl ?_⟩
        obtain ⟨r, hr, hnot⟩ := List.all_eq_false.1 hmax
        simp only [Bool.or_eq_true, Bool.not_eq_true', not_or, Bool.not_eq_false, sup_iff] at hnot
        have hSr : S ⊆ r := fun x hx => hnot.1 (hScur hx)
        exact ⟨r, hr, hSr, hS.2.2 r (hrep r hr).1 hSr (hrep r hr).2⟩
      · refine ⟨fun r hr => ?_, hrestq, cov_pop hq hcov (fun S => Exists.imp fun r => And.imp_left (List.mem_append_left _))
          (fun _ h => h) fun S hS hScur _ _ => .inl ⟨cur, List.mem_append_right _ (List.mem_singleton.2 rfl), hScur,
            hS.2.2 cur hcurF.1 hScur hcons⟩⟩
        rcases List.mem_append.1 hr with h | h
        · exact hrep r h
        · cases List.mem_singleton.1 h; exact ⟨hcurF.1, hcons⟩

theorem searchLoop_spec {viol : List α → Bool} {F : List α} (hv : SetInv viol) (fuel : Nat) :
    ∀ (st : St α) (R : List (List α)), Inv viol F st → searchLoop viol fuel st = some R →
      (∀ r ∈ R, r ⊆ F ∧ viol r = false) ∧ ∀ S, IsRepair viol F S → Repr' R S := by
  induction fuel with
  | zero => exact fun _ _ _ h => nomatch h
  | succ n ih =>
    intro st R inv h
    unfold searchLoop at h
    cases hq : st.queue with
    | nil =>
      rw [hq] at h
      cases h
      refine ⟨inv.rep_sub, fun S hS => ?_⟩
      rcases inv.cov S hS F (.inl rfl) hS.1 with h | ⟨T', hT', _⟩
      · exact h
      · rw [hq] at hT'; cases hT'
    | cons cur rest =>
      rw [hq] at h
      exact ih _ R (inv_step hv hq inv) h

/-- every consistent subset extends to a repair: keep replacing it by a strictly larger consistent subset; `D` lists
    the elements of `F` that may still be added and shrinks at each replacement -/
theorem exists_repair_above_aux {viol : List α → Bool} {F : List α} (n : Nat) :
    ∀ D T : List α, D.length < n → (∀ x ∈ F, x ∉ T → x ∈ D) → T ⊆ F → viol T = false →
      ∃ S, IsRepair viol F S ∧ T ⊆ S := by
  induction n with
  | zero => exact fun _ _ h => absurd h (Nat.not_lt_zero _)
  | succ n ih =>
    intro D T hlen hD hTF hT
    by_cases hex : ∃ T', T' ⊆ F ∧ T ⊆ T' ∧ viol T' = false ∧ ¬ T' ⊆ T
    · obtain ⟨T', hT'F, hTT', hT', hnot⟩ := hex
      obtain ⟨x, hx⟩ := Classical.not_forall.mp hnot
      obtain ⟨hxT', hxT⟩ := Classical.not_imp.mp hx
      have hlt : (D.filter fun y => decide (y ∉ T')).length < D.length :=
        List.length_filter_lt_length_iff_exists.2 ⟨x, hD x (hT'F hxT') hxT, by simpa using hxT'⟩
      obtain ⟨S, hS, hT'S⟩ := ih _ T' (Nat.lt_of_lt_of_le hlt (Nat.le_of_lt_succ hlen))
        (fun y hyF hyT' => List.mem_filter.2 ⟨hD y hyF fun h => hyT' (hTT' h), decide_eq_true hyT'⟩) hT'F hT'
      exact ⟨S, hS, fun y hy => hT'S (hTT' hy)⟩
    · exact ⟨T, ⟨hTF, hT, fun T' hT'F hTT' hT' => Classical.not_not.1 fun hnot => hex ⟨T', hT'F, hTT', hT', hnot⟩⟩,
        List.Subset.refl _⟩

theorem exists_repair_above {viol : List α → Bool} {F T : List α} (hTF : T ⊆ F) (hT : viol T = false) :
    ∃ S, IsRepair viol F S ∧ T ⊆ S :=
  exists_repair_above_aux _ F T (Nat.lt_succ_self _) (fun _ hx _ => hx) hTF hT

theorem exists_repair {viol : List α → Bool} {F : List α} (h0 : viol [] = false) : ∃ S, IsRepair viol F S :=
  let ⟨S, hS, _⟩ := exists_repair_above (F := F) (List.nil_subset _) h0
  ⟨S, hS⟩

theorem mem_maximalOnly {R : List (List α)} {r : List α} :
    r ∈ maximalOnly R ↔ r ∈ R ∧ ∀ o ∈ R, r ⊆ o → o ⊆ r := by
  simp only [maximalOnly, List.mem_filter, Bool.not_eq_true', List.any_eq_false, Bool.and_eq_true, not_and,
    Bool.not_eq_false, sup_iff]

theorem maximalOnly_spec {viol : List α → Bool} {F : List α} {R : List (List α)}
    (hs : ∀ r ∈ R, r ⊆ F ∧ viol r = false) (hc : ∀ S, IsRepair viol F S → Repr' R S) :
    (∀ r ∈ maximalOnly R, IsRepair viol F r) ∧ ∀ S, IsRepair viol F S → Repr' (maximalOnly R) S := by
  constructor
  · -- a consistent `T` above `r` lies below a repair, which some `r'` of the list represents; `r'` is above `r`
    intro r hr
    obtain ⟨hrR, hmax⟩ := mem_maximalOnly.1 hr
    refine ⟨(hs r hrR).1, (hs r hrR).2, fun T hTF hrT hT => ?_⟩
    obtain ⟨S, hS, hTS⟩ := exists_repair_above hTF hT
    obtain ⟨r', hr', hSr', _⟩ := hc S hS
    have h2 := hmax r' hr' fun x hx => hSr' (hTS (hrT hx))
    exact fun x hx => h2 (hSr' (hTS hx))
  · intro S hS
    obtain ⟨r, hr, hSr, hrS⟩ := hc S hS
    refine ⟨r, mem_maximalOnly.2 ⟨hr, fun o ho hro => ?_⟩, hSr, hrS⟩
    exact fun x hx => hSr (hS.2.2 o (hs o ho).1 (fun x hx => hro (hSr hx)) (hs o ho).2 hx)

end

/-- `compute_repairs` (with the fix): sound and complete for the repairs, for every order of `F` -/
theorem computeRepairs_spec {viol : List Fact → Bool} {F : List Fact} {fuel : Nat} {R : List (List Fact)}
    (hv : SetInv viol) (hF : F.Nodup) (h : computeRepairs viol fuel F = some R) :
    (∀ r ∈ R, IsRepair viol F r) ∧ ∀ S, IsRepair viol F S → Repr' R S := by
  simp only [computeRepairs, Option.map_eq_some_iff] at h
  obtain ⟨R0, h0, rfl⟩ := h
  obtain ⟨hs, hc⟩ := searchLoop_spec hv fuel _ R0 (inv_init viol F hF) h0
  obtain ⟨h1, h2⟩ := maximalOnly_spec hs hc
  constructor
  · intro r hr; exact h1 r (List.mem_mergeSort.1 hr)
  · intro S hS
    obtain ⟨r, hr, h⟩ := h2 S hS
    exact ⟨r, List.mem_mergeSort.2 hr, h⟩

end Kolibrie.Repairs
