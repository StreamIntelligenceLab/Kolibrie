import Kolibrie.Model.Store
import Kolibrie.Spec.QuadSet
/-!
What C04 needs of the store.  `Inv`: the four indexes are duplicate-free and hold the same quads, and the catalog
names every non-default graph in use.  Under `Inv` each call changes the members of `spog` and of the catalog as the
specification changes its two lists (`step_sem`, `specStep_sem`), and each read path returns the matching members of
`spog`, each once.
-/
namespace Kolibrie.Store

variable {α : Type} [DecidableEq α]

@[simp] theorem mem_insL {l : List α} {a b : α} : b ∈ insL l a ↔ b ∈ l ∨ b = a := by
  unfold insL; split <;> simp_all

theorem nodup_insL {l : List α} {a : α} (h : l.Nodup) : (insL l a).Nodup := by
  unfold insL; split
  · exact h
  · rw [List.nodup_append]; refine ⟨h, by simp, ?_⟩
    intro x hx y hy; simp at hy; subst hy; intro e; subst e; contradiction

@[simp] theorem mem_delL {l : List α} {a b : α} : b ∈ delL l a ↔ b ∈ l ∧ b ≠ a := by
  unfold delL; simp

theorem nodup_delL {l : List α} {a : α} (h : l.Nodup) : (delL l a).Nodup :=
  List.Pairwise.filter _ h

theorem mem_foldl_insL {β : Type} (f : β → α) (xs : List β) (acc : List α) (b : α) :
    b ∈ xs.foldl (fun acc x => insL acc (f x)) acc ↔ b ∈ acc ∨ ∃ x ∈ xs, b = f x := by
  induction xs generalizing acc with
  | nil => simp
  | cons x xs ih => simp only [List.foldl_cons, ih, mem_insL, List.mem_cons, exists_eq_or_imp, or_assoc]

theorem nodup_foldl_insL {β : Type} (f : β → α) (xs : List β) (acc : List α) (h : acc.Nodup) :
    (xs.foldl (fun acc x => insL acc (f x)) acc).Nodup := by
  induction xs generalizing acc with
  | nil => simpa
  | cons x xs ih => exact ih _ (nodup_insL h)

def abs (st : Store) : Abs := ⟨st.spog, st.named⟩

structure Inv (st : Store) : Prop where
  nd1 : st.gspo.Nodup
  nd2 : st.gpos.Nodup
  nd3 : st.gosp.Nodup
  nd4 : st.spog.Nodup
  ndn : st.named.Nodup
  e1 : ∀ q, q ∈ st.gspo ↔ q ∈ st.spog
  e2 : ∀ q, q ∈ st.gpos ↔ q ∈ st.spog
  e3 : ∀ q, q ∈ st.gosp ↔ q ∈ st.spog
  cat : ∀ q, q ∈ st.spog → q.g ≠ 0 → q.g ∈ st.named
  nz : ∀ g, g ∈ st.named → g ≠ 0

theorem inv_init : Inv init := by
  constructor <;> simp [init]

theorem Inv.named {st : Store} (h : Inv st) {n : List Nat} (hn : n.Nodup)
    (hcat : ∀ q ∈ st.spog, q.g ≠ 0 → q.g ∈ n) (hnz : ∀ g ∈ n, g ≠ 0) : Inv { st with named := n } :=
  ⟨h.nd1, h.nd2, h.nd3, h.nd4, hn, h.e1, h.e2, h.e3, hcat, hnz⟩

/-- One list operation `f` applied to all four indexes keeps them consistent, if membership in `f l` is a function
    `P` of membership in `l`. -/
theorem Inv.indexes {st : Store} (h : Inv st) (f : List Quad → List Quad) (P : Quad → Prop → Prop)
    (hnd : ∀ {l}, l.Nodup → (f l).Nodup) (hmem : ∀ {l} x, x ∈ f l ↔ P x (x ∈ l))
    (hcat : ∀ x, P x (x ∈ st.spog) → x.g ≠ 0 → x.g ∈ st.named) :
    Inv { st with gspo := f st.gspo, gpos := f st.gpos, gosp := f st.gosp, spog := f st.spog } :=
  ⟨hnd h.nd1, hnd h.nd2, hnd h.nd3, hnd h.nd4, h.ndn,
    fun x => by rw [hmem, hmem, h.e1], fun x => by rw [hmem, hmem, h.e2], fun x => by rw [hmem, hmem, h.e3],
    fun x hx => hcat x ((hmem x).1 hx), h.nz⟩

theorem touch_spec (st : Store) (g : Nat) (h : Inv st) :
    Inv (touch st g) ∧ (touch st g).spog = st.spog ∧
    (∀ x, x ∈ (touch st g).named ↔ x ∈ st.named ∨ (x = g ∧ g ≠ 0)) := by
  unfold touch
  by_cases hg : g = 0
  · simp [hg, h]
  · rw [if_pos (bne_iff_ne.2 hg)]
    refine ⟨h.named (nodup_insL h.ndn) (fun q hq hz => mem_insL.2 (Or.inl (h.cat q hq hz))) ?_, rfl, ?_⟩
    · intro x hx
      rcases mem_insL.1 hx with hx | rfl
      · exact h.nz x hx
      · exact hg
    · intro x
      simp only [mem_insL, ne_eq, hg, not_false_eq_true, and_true]

theorem insertQuad_spec (st : Store) (q : Quad) (h : Inv st) :
    Inv (insertQuad st q).1 ∧
    (∀ x, x ∈ (insertQuad st q).1.spog ↔ x ∈ st.spog ∨ x = q) ∧
    (∀ g, g ∈ (insertQuad st q).1.named ↔ g ∈ st.named ∨ (g = q.g ∧ q.g ≠ 0)) ∧
    ((insertQuad st q).2 = true ↔ q ∉ st.spog) := by
  obtain ⟨hi, hs, hn⟩ := touch_spec st q.g h
  unfold insertQuad contains
  generalize touch st q.g = st' at hi hs hn ⊢
  rw [← hs]
  by_cases hq : q ∈ st'.spog
  · rw [if_pos (decide_eq_true hq)]
    exact ⟨hi, fun x => ⟨Or.inl, fun hx => hx.elim id (· ▸ hq)⟩, hn, by simp [hq]⟩
  · rw [if_neg (by simpa using hq)]
    refine ⟨hi.indexes (insL · q) (fun x m => m ∨ x = q) nodup_insL (fun _ => mem_insL) ?_, fun _ => mem_insL, hn,
      by simp [hq]⟩
    rintro x (hx | rfl) hz
    · exact hi.cat x hx hz
    · exact (hn _).2 (Or.inr ⟨rfl, hz⟩)

theorem deleteQuad_spec (st : Store) (q : Quad) (h : Inv st) :
    Inv (deleteQuad st q).1 ∧
    (∀ x, x ∈ (deleteQuad st q).1.spog ↔ x ∈ st.spog ∧ x ≠ q) ∧
    (∀ g, g ∈ (deleteQuad st q).1.named ↔ g ∈ st.named) ∧
    ((deleteQuad st q).2 = true ↔ q ∈ st.spog) := by
  unfold deleteQuad contains
  by_cases hq : q ∈ st.spog
  · obtain ⟨hi, hs, hn⟩ := touch_spec st q.g h
    rw [if_neg (by simpa using hq)]
    generalize touch st q.g = st' at hi hs hn ⊢
    rw [← hs]
    refine ⟨hi.indexes (delL · q) (fun x m => m ∧ x ≠ q) nodup_delL (fun _ => mem_delL)
      (fun x hx hz => hi.cat x hx.1 hz), fun _ => mem_delL, fun g => ?_, ⟨fun _ => hs ▸ hq, fun _ => rfl⟩⟩
    -- the catalog touch adds nothing: the graph of a stored quad is in the catalog already
    rw [hn]
    exact ⟨fun hx => hx.elim id fun ⟨e, hz⟩ => e ▸ h.cat q hq hz, Or.inl⟩
  · rw [if_pos (by simpa using hq)]
    exact ⟨h, fun x => ⟨fun hx => ⟨hx, fun e => hq (e ▸ hx)⟩, And.left⟩, fun _ => Iff.rfl, by simp [hq]⟩

theorem graphExists_iff (st : Store) (g : Nat) (h : Inv st) :
    graphExists st g = true ↔ g = 0 ∨ g ∈ st.named := by
  unfold graphExists
  simp only [Bool.or_eq_true, beq_iff_eq, decide_eq_true_eq, List.any_eq_true]
  constructor
  · rintro ((h0 | hn) | ⟨q, hq, e⟩)
    · exact Or.inl h0
    · exact Or.inr hn
    · by_cases hz : g = 0
      · exact Or.inl hz
      · subst e; exact Or.inr (h.cat q ((h.e1 q).1 hq) hz)
  · rintro (h0 | hn)
    · exact Or.inl (Or.inl h0)
    · exact Or.inl (Or.inr hn)

theorem graphExists_eq_false (st : Store) (g : Nat) (h : Inv st) (hz : g ≠ 0) (hm : g ∉ st.named) :
    graphExists st g = false :=
  Bool.eq_false_iff.2 fun he => ((graphExists_iff st g h).1 he).elim hz hm

theorem foldl_delete_spec (L : List Quad) (st : Store) (h : Inv st) :
    Inv (L.foldl (fun acc q => (deleteQuad acc q).1) st) ∧
    (∀ x, x ∈ (L.foldl (fun acc q => (deleteQuad acc q).1) st).spog ↔ x ∈ st.spog ∧ x ∉ L) ∧
    (∀ g, g ∈ (L.foldl (fun acc q => (deleteQuad acc q).1) st).named ↔ g ∈ st.named) := by
  induction L generalizing st with
  | nil => simp [h]
  | cons q L ih =>
    obtain ⟨hi, hs, hn, _⟩ := deleteQuad_spec st q h
    obtain ⟨hi', hs', hn'⟩ := ih _ hi
    refine ⟨hi', ?_, ?_⟩
    · intro x; simp only [List.foldl_cons, hs', hs, List.mem_cons, not_or, and_assoc]
    · intro g; simp only [List.foldl_cons, hn', hn]

theorem foldl_insert_spec (L : List Quad) (st : Store) (h : Inv st) :
    Inv (L.foldl (fun acc q => (insertQuad acc q).1) st) ∧
    (∀ x, x ∈ (L.foldl (fun acc q => (insertQuad acc q).1) st).spog ↔ x ∈ st.spog ∨ x ∈ L) ∧
    (∀ g, g ∈ (L.foldl (fun acc q => (insertQuad acc q).1) st).named ↔
        g ∈ st.named ∨ ∃ q ∈ L, g = q.g ∧ q.g ≠ 0) := by
  induction L generalizing st with
  | nil => simp [h]
  | cons q L ih =>
    obtain ⟨hi, hs, hn, _⟩ := insertQuad_spec st q h
    obtain ⟨hi', hs', hn'⟩ := ih _ hi
    refine ⟨hi', ?_, ?_⟩
    · intro x; simp only [List.foldl_cons, hs', hs, List.mem_cons, or_assoc]
    · intro g; simp only [List.foldl_cons, hn', hn, List.mem_cons, exists_eq_or_imp, or_assoc]

theorem createGraph_spec (st : Store) (g : Nat) (h : Inv st) :
    (createGraph st g).1 = touch st g ∧
    ((createGraph st g).2 = true ↔ g ≠ 0 ∧ g ∉ st.named) := by
  unfold createGraph touch
  by_cases hg : g = 0
  · simp [hg]
  · rw [if_neg (by simpa using hg), if_pos (bne_iff_ne.2 hg)]
    refine ⟨rfl, ?_⟩
    by_cases hm : g ∈ st.named
    · simp [(graphExists_iff st g h).2 (Or.inr hm), hm]
    · simp [graphExists_eq_false st g h hg hm, hm, hg]

theorem foldl_create_spec (L : List Nat) (st : Store) (h : Inv st) :
    Inv (L.foldl (fun acc g => (createGraph acc g).1) st) ∧
    (L.foldl (fun acc g => (createGraph acc g).1) st).spog = st.spog ∧
    (∀ x, x ∈ (L.foldl (fun acc g => (createGraph acc g).1) st).named ↔ x ∈ st.named ∨ ∃ g ∈ L, x = g ∧ g ≠ 0) := by
  induction L generalizing st with
  | nil => simp [h]
  | cons g L ih =>
    obtain ⟨hi, hs, hn⟩ := touch_spec st g h
    rw [← (createGraph_spec st g h).1] at hi hs hn
    obtain ⟨hi', hs', hn'⟩ := ih _ hi
    refine ⟨hi', by simp only [List.foldl_cons, hs', hs], ?_⟩
    intro x; simp only [List.foldl_cons, hn', hn, List.mem_cons, exists_eq_or_imp, or_assoc]

theorem matchQ_none (q : Quad) : matchQ none none none q = true := rfl

/-- whatever index serves a lookup shape, it holds the quads of `spog`, each once -/
theorem queryGraph_eq (st : Store) (h : Inv st) (g : Nat) (sp pp op : Option Nat) :
    ∃ idx : List Quad, idx.Nodup ∧ (∀ q, q ∈ idx ↔ q ∈ st.spog) ∧
      queryGraph st g sp pp op = idx.filter (fun q => q.g == g && matchQ sp pp op q) := by
  cases sp <;> cases pp <;> cases op
  case some.some.some => exact ⟨_, h.nd4, fun _ => Iff.rfl, rfl⟩
  case some.none.some | none.none.some => exact ⟨_, h.nd3, h.e3, rfl⟩
  case none.some.some | none.some.none => exact ⟨_, h.nd2, h.e2, rfl⟩
  all_goals exact ⟨_, h.nd1, h.e1, rfl⟩

theorem mem_queryGraph (st : Store) (h : Inv st) (g : Nat) (sp pp op : Option Nat) (q : Quad) :
    q ∈ queryGraph st g sp pp op ↔ q ∈ st.spog ∧ q.g = g ∧ matchQ sp pp op q = true := by
  obtain ⟨idx, _, hm, e⟩ := queryGraph_eq st h g sp pp op
  rw [e, List.mem_filter, hm, Bool.and_eq_true, beq_iff_eq]

theorem nodup_queryGraph (st : Store) (h : Inv st) (g : Nat) (sp pp op : Option Nat) :
    (queryGraph st g sp pp op).Nodup := by
  obtain ⟨idx, hn, _, e⟩ := queryGraph_eq st h g sp pp op
  exact e ▸ List.Pairwise.filter _ hn

/-- the graphs discoverable through `gspo` are in the catalog already -/
theorem mem_namedGraphs_inv (st : Store) (h : Inv st) (g : Nat) :
    g ∈ namedGraphs st ↔ g ∈ st.named := by
  unfold namedGraphs
  rw [mem_foldl_insL (fun q : Quad => q.g)]
  constructor
  · rintro (a | ⟨q, hq, rfl⟩)
    · exact a
    · obtain ⟨hq, hz⟩ := List.mem_filter.1 hq
      exact h.cat q ((h.e1 q).1 hq) (bne_iff_ne.1 hz)
  · exact Or.inl

theorem nodup_namedGraphs (st : Store) (h : Inv st) : (namedGraphs st).Nodup := by
  unfold namedGraphs
  exact nodup_foldl_insL (fun q : Quad => q.g) _ _ h.ndn

theorem mem_graphs (st : Store) (h : Inv st) (g : Nat) : g ∈ graphs st ↔ g = 0 ∨ g ∈ st.named := by
  unfold graphs; simp only [List.mem_cons, mem_namedGraphs_inv st h]

theorem nodup_graphs (st : Store) (h : Inv st) : (graphs st).Nodup := by
  unfold graphs
  rw [List.nodup_cons]
  refine ⟨?_, nodup_namedGraphs st h⟩
  intro h0
  exact h.nz 0 ((mem_namedGraphs_inv st h 0).1 h0) rfl

theorem nodup_flatMap_graphs (gs : List Nat) (f : Nat → List Quad) (hgs : gs.Nodup)
    (hf : ∀ g, (f g).Nodup) (hg : ∀ g q, q ∈ f g → q.g = g) : (gs.flatMap f).Nodup := by
  unfold List.Nodup
  rw [List.pairwise_flatMap]
  refine ⟨fun g _ => hf g, ?_⟩
  refine List.Pairwise.imp ?_ hgs
  intro a b hab x hx y hy e
  subst e
  exact hab ((hg a x hx).symm.trans (hg b x hy))

theorem mem_namedLoop (st : Store) (h : Inv st) (sp pp op : Option Nat) (vis : Option (List Nat)) (q : Quad) :
    q ∈ namedLoop st sp pp op vis ↔
      q ∈ st.spog ∧ q.g ≠ 0 ∧ matchQ sp pp op q = true ∧ visibleIn vis q.g = true := by
  unfold namedLoop
  simp only [List.mem_flatMap, mem_namedGraphs_inv st h]
  constructor
  · rintro ⟨g, hg, hq⟩
    by_cases hv : visibleIn vis g = true
    · rw [if_pos hv, mem_queryGraph st h] at hq
      obtain ⟨a, rfl, c⟩ := hq
      exact ⟨a, h.nz _ hg, c, hv⟩
    · rw [if_neg hv] at hq; simp at hq
  · rintro ⟨a, b, c, d⟩
    refine ⟨q.g, h.cat q a b, ?_⟩
    rw [if_pos d, mem_queryGraph st h]
    exact ⟨a, rfl, c⟩

theorem nodup_namedLoop (st : Store) (h : Inv st) (sp pp op : Option Nat) (vis : Option (List Nat)) :
    (namedLoop st sp pp op vis).Nodup := by
  unfold namedLoop
  apply nodup_flatMap_graphs _ _ (nodup_namedGraphs st h)
  · intro g; split
    · exact nodup_queryGraph st h g sp pp op
    · exact List.nodup_nil
  · intro g q hq; split at hq
    · exact ((mem_queryGraph st h g sp pp op q).1 hq).2.1
    · simp at hq

theorem mem_queryNamed (st : Store) (h : Inv st) (sp pp op : Option Nat) (vis : Option (List Nat)) (q : Quad) :
    q ∈ queryNamed st sp pp op vis ↔
      q ∈ st.spog ∧ q.g ≠ 0 ∧ matchQ sp pp op q = true ∧ visibleIn vis q.g = true := by
  unfold queryNamed
  split
  · split
    · simp only [List.mem_filter, Bool.and_eq_true, beq_iff_eq, bne_iff_ne, ne_eq, matchQ]
      constructor
      · rintro ⟨a, ⟨⟨⟨b, c⟩, d⟩, e⟩, f⟩; exact ⟨a, e, ⟨⟨b, c⟩, d⟩, f⟩
      · rintro ⟨a, e, ⟨⟨b, c⟩, d⟩, f⟩; exact ⟨a, ⟨⟨⟨b, c⟩, d⟩, e⟩, f⟩
    · exact mem_namedLoop st h _ _ _ vis q
  · exact mem_namedLoop st h _ _ _ vis q

theorem nodup_queryNamed (st : Store) (h : Inv st) (sp pp op : Option Nat) (vis : Option (List Nat)) :
    (queryNamed st sp pp op vis).Nodup := by
  unfold queryNamed
  split
  · split
    · exact List.Pairwise.filter _ h.nd4
    · exact nodup_namedLoop st h _ _ _ vis
  · exact nodup_namedLoop st h _ _ _ vis

theorem mem_allQuads (st : Store) (h : Inv st) (q : Quad) : q ∈ allQuads st ↔ q ∈ st.spog := by
  unfold allQuads
  simp only [List.mem_flatMap, mem_queryGraph st h, matchQ_none, and_true, mem_graphs st h]
  constructor
  · rintro ⟨g, _, a, _⟩; exact a
  · intro a
    refine ⟨q.g, ?_, a, rfl⟩
    by_cases hz : q.g = 0
    · exact Or.inl hz
    · exact Or.inr (h.cat q a hz)

theorem nodup_allQuads (st : Store) (h : Inv st) : (allQuads st).Nodup := by
  unfold allQuads
  apply nodup_flatMap_graphs _ _ (nodup_graphs st h)
  · intro g; exact nodup_queryGraph st h g none none none
  · intro g q hq; exact ((mem_queryGraph st h g none none none q).1 hq).2.1

theorem clearGraph_spec (st : Store) (g : Nat) (h : Inv st) :
    Inv (clearGraph st g) ∧
    (∀ x, x ∈ (clearGraph st g).spog ↔ x ∈ st.spog ∧ x.g ≠ g) ∧
    (∀ x, x ∈ (clearGraph st g).named ↔ x ∈ st.named) := by
  unfold clearGraph
  -- the optional catalog touch changes nothing: a graph that exists is in the catalog already
  have key : ∃ st', (if graphExists st g = true then touch st g else st) = st' ∧ Inv st' ∧
      st'.spog = st.spog ∧ (∀ x, x ∈ st'.named ↔ x ∈ st.named) := by
    by_cases he : graphExists st g = true
    · obtain ⟨hi, hs, hn⟩ := touch_spec st g h
      refine ⟨_, if_pos he, hi, hs, fun x => (hn x).trans ⟨fun hx => hx.elim id fun ⟨e, hz⟩ => ?_, Or.inl⟩⟩
      exact e ▸ ((graphExists_iff st g h).1 he).resolve_left hz
    · exact ⟨st, if_neg he, h, rfl, fun _ => Iff.rfl⟩
  obtain ⟨st', hst', hi, hs, hn⟩ := key
  simp only [hst']
  obtain ⟨hi', hs', hn'⟩ := foldl_delete_spec (queryGraph st' g none none none) st' hi
  refine ⟨hi', fun x => ?_, fun x => (hn' x).trans (hn x)⟩
  rw [hs', mem_queryGraph st' hi, hs]
  simp only [matchQ_none, and_true, not_and]
  exact ⟨fun ⟨a, b⟩ => ⟨a, b a⟩, fun ⟨a, b⟩ => ⟨a, fun _ => b⟩⟩

theorem dropGraph_spec (st : Store) (g : Nat) (h : Inv st) :
    Inv (dropGraph st g).1 ∧
    (∀ x, x ∈ (dropGraph st g).1.spog ↔ x ∈ st.spog ∧ ¬ (x.g = g ∧ (g = 0 ∨ g ∈ st.named))) ∧
    (∀ x, x ∈ (dropGraph st g).1.named ↔ x ∈ st.named ∧ (g = 0 ∨ x ≠ g)) ∧
    ((dropGraph st g).2 = true ↔ g = 0 ∨ g ∈ st.named) := by
  unfold dropGraph
  obtain ⟨ci, cs, cn⟩ := clearGraph_spec st g h
  by_cases hg : g = 0
  · subst hg
    exact ⟨ci, by simpa using cs, by simpa using cn, by simp⟩
  · rw [if_neg (by simpa using hg)]
    by_cases hm : g ∈ st.named
    · rw [(graphExists_iff st g h).2 (Or.inr hm)]
      refine ⟨ci.named (nodup_delL ci.ndn) (fun q hq hz => mem_delL.2 ⟨ci.cat q hq hz, ((cs q).1 hq).2⟩)
        (fun x hx => ci.nz x (mem_delL.1 hx).1), ?_, ?_, ?_⟩
      · simpa [hm] using cs
      · intro x
        simp [cn, hg]
      · simp [hm]
    · rw [graphExists_eq_false st g h hg hm]
      refine ⟨h, by simp [hg, hm], fun x => ⟨fun hx => ⟨hx, Or.inr fun e => hm (e ▸ hx)⟩, And.left⟩, by simp [hg, hm]⟩

theorem rebuild_spec (st : Store) (h : Inv st) :
    Inv (rebuild st) ∧ (∀ x, x ∈ (rebuild st).spog ↔ x ∈ st.spog) ∧
    (∀ x, x ∈ (rebuild st).named ↔ x ∈ st.named) := by
  unfold rebuild
  obtain ⟨i1, s1, n1⟩ := foldl_create_spec (namedGraphs st) init inv_init
  obtain ⟨i2, s2, n2⟩ := foldl_insert_spec (allQuads st) _ i1
  refine ⟨i2, ?_, ?_⟩
  · intro x; rw [s2, s1, mem_allQuads st h]; simp [init]
  · intro x; rw [n2, n1]
    simp only [init, List.not_mem_nil, false_or, mem_namedGraphs_inv st h, mem_allQuads st h]
    constructor
    · rintro (⟨g, hg, rfl, _⟩ | ⟨q, hq, rfl, hz⟩)
      · exact hg
      · exact h.cat q hq hz
    · intro a; exact Or.inl ⟨x, a, rfl, h.nz x a⟩

/-! ### what a call means for the two sets a store denotes

`Q` and `G` say which quads are stored and which named-graph identities exist before the call.  Both the
specification (on lists, whatever their order and repetitions) and the indexes realise this meaning. -/

def Op.quadsAfter (Q : Quad → Prop) (G : Nat → Prop) : Op → Quad → Prop
  | .ins q, x => Q x ∨ x = q
  | .del q, x => Q x ∧ x ≠ q
  | .clear g, x => Q x ∧ x.g ≠ g
  | .drop g, x => Q x ∧ ¬(x.g = g ∧ (g = 0 ∨ G g))
  | .clearAll, _ => False
  | .create _, x | .rebuild, x => Q x

def Op.graphsAfter (G : Nat → Prop) : Op → Nat → Prop
  | .ins q, g => G g ∨ (g = q.g ∧ q.g ≠ 0)
  | .create g', g => G g ∨ (g = g' ∧ g' ≠ 0)
  | .drop g', g => G g ∧ (g' = 0 ∨ g ≠ g')
  | .clearAll, _ => False
  | .del _, g | .clear _, g | .rebuild, g => G g

/-- when the call answers `true` -/
def Op.answer (Q : Quad → Prop) (G : Nat → Prop) : Op → Prop
  | .ins q => ¬ Q q
  | .del q => Q q
  | .create g => g ≠ 0 ∧ ¬ G g
  | .drop g => g = 0 ∨ G g
  | .clear _ | .clearAll | .rebuild => True

theorem specStep_sem (a : Abs) (op : Op) :
    (∀ x, x ∈ (specStep a op).1.quads ↔ op.quadsAfter (· ∈ a.quads) (· ∈ a.graphs) x) ∧
    (∀ g, g ∈ (specStep a op).1.graphs ↔ op.graphsAfter (· ∈ a.graphs) g) ∧
    ((specStep a op).2 = true ↔ op.answer (· ∈ a.quads) (· ∈ a.graphs)) := by
  cases op <;> simp only [specStep, Op.quadsAfter, Op.graphsAfter, Op.answer]
  case ins q => by_cases hm : q ∈ a.quads <;> by_cases hz : q.g = 0 <;> simp [hm, hz]
  case del q =>
    by_cases hm : q ∈ a.quads <;> simp [hm]
    exact fun x hx e => hm (e ▸ hx)
  case create g => by_cases hz : g = 0 <;> simp [hz]
  case clear g => simp
  case drop g =>
    by_cases hz : g = 0
    · simp [hz]
    · by_cases hm : g ∈ a.graphs <;> simp [hz, hm]
      exact fun x hx e => hm (e ▸ hx)
  case clearAll => simp [absInit]
  case rebuild => simp

theorem step_sem (st : Store) (op : Op) (h : Inv st) :
    Inv (step st op).1 ∧
    (∀ x, x ∈ (step st op).1.spog ↔ op.quadsAfter (· ∈ st.spog) (· ∈ st.named) x) ∧
    (∀ g, g ∈ (step st op).1.named ↔ op.graphsAfter (· ∈ st.named) g) ∧
    ((step st op).2 = true ↔ op.answer (· ∈ st.spog) (· ∈ st.named)) := by
  cases op with
  | ins q => exact insertQuad_spec st q h
  | del q => exact deleteQuad_spec st q h
  | create g =>
    obtain ⟨hi, hs, hn⟩ := touch_spec st g h
    obtain ⟨e, hb⟩ := createGraph_spec st g h
    exact ⟨e ▸ hi, fun x => by rw [step, e, hs]; rfl, e ▸ hn, hb⟩
  | clear g => exact (clearGraph_spec st g h).imp_right fun r => ⟨r.1, r.2, iff_of_true rfl trivial⟩
  | drop g => exact dropGraph_spec st g h
  | clearAll =>
    exact ⟨inv_init, fun _ => List.mem_nil_iff _, fun _ => List.mem_nil_iff _, iff_of_true rfl trivial⟩
  | rebuild => exact (rebuild_spec st h).imp_right fun r => ⟨r.1, r.2, iff_of_true rfl trivial⟩

end Kolibrie.Store
