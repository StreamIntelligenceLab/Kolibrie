import Kolibrie.Lemmas.Certain
/-! Whatever join algorithm the optimizer assigns to the join nodes of a lowered plan, the answer is the same
    multiset (on the safe fragment). -/
namespace Kolibrie.Engine
open List

/-- the reference implementation: every join is a nested-loop join -/
def implNl : Logical → Plan
  | .unit => .unit
  | .empty => .empty
  | .scan pat => .scan pat
  | .union l r => .union (implNl l) (implNl r)
  | .graph i g => .graph (implNl i) g
  | .filter i c => .filter (implNl i) c
  | .join l r => .nlJoin (implNl l) (implNl r)
  | .values vars rows => .values vars rows
  | .subquery i spec => .subquery (implNl i) spec
  | .bind i args out => .bind (implNl i) args out

/-- the reference implementation that relates plans to the algebra: every join is a bind join -/
def implBind : Logical → Plan
  | .unit => .unit
  | .empty => .empty
  | .scan pat => .scan pat
  | .union l r => .union (implBind l) (implBind r)
  | .graph i g => .graph (implBind i) g
  | .filter i c => .filter (implBind i) c
  | .join l r => .bindJoin (implBind l) (implBind r)
  | .values vars rows => .values vars rows
  | .subquery i spec => .subquery (implBind i) spec
  | .bind i args out => .bind (implBind i) args out

def joinFree : Logical → Bool
  | .unit => true
  | .empty => true
  | .scan _ => true
  | .union l r => joinFree l && joinFree r
  | .graph i _ => joinFree i
  | .filter i _ => joinFree i
  | .join _ _ => false
  | .values _ _ => true
  | .subquery i _ => joinFree i
  | .bind i _ _ => joinFree i

def certainL : Logical → List Var
  | .unit => []
  | .empty => []
  | .scan pat => termVar pat.s ++ termVar pat.p ++ termVar pat.o
  | .union l r => (certainL l).filter (fun v => (certainL r).contains v)
  | .graph i _ => certainL i
  | .filter i _ => certainL i
  | .join l r => certainL l ++ certainL r
  | .values _ _ => []
  | .subquery _ _ => []
  | .bind _ _ _ => []

/-- the decidable side condition on logical plans: no BIND, FILTER variables certainly bound by the filter's
    input, sub-selects without inner joins -/
def safeL : Logical → Bool
  | .unit => true
  | .empty => true
  | .scan _ => true
  | .union l r => safeL l && safeL r
  | .graph i _ => safeL i
  | .filter i c => safeL i && c.vars.all (fun v => (certainL i).contains v)
  | .join l r => safeL l && safeL r
  | .values _ _ => true
  | .subquery i _ => joinFree i
  | .bind _ _ _ => false

/-- `p` implements `L`: the same operators, with some join algorithm at every join node -/
inductive Impl : Logical → Plan → Prop
  | unit : Impl .unit .unit
  | empty : Impl .empty .empty
  | scan (pat : QPat) : Impl (.scan pat) (.scan pat)
  | values (vars : List Var) (rows : List (List (Option Val))) : Impl (.values vars rows) (.values vars rows)
  | union {l r : Logical} {pl pr : Plan} : Impl l pl → Impl r pr → Impl (.union l r) (.union pl pr)
  | graph {i : Logical} {p : Plan} (g : GTerm) : Impl i p → Impl (.graph i g) (.graph p g)
  | filter {i : Logical} {p : Plan} (c : Cond) : Impl i p → Impl (.filter i c) (.filter p c)
  | join {l r : Logical} {pl pr : Plan} (alg : JoinAlg) : Impl l pl → Impl r pr → Impl (.join l r) (mkJoin alg pl pr)
  | subquery {i : Logical} {p : Plan} (spec : Spec) : Impl i p → Impl (.subquery i spec) (.subquery p spec)
  | bind {i : Logical} {p : Plan} (args : List Operand) (out : Var) : Impl i p → Impl (.bind i args out) (.bind p args out)

theorem impl_implement (L : Logical) (algs : List JoinAlg) : Impl L (implement algs L).1 := by
  induction L generalizing algs with
  | unit => exact .unit
  | empty => exact .empty
  | scan pat => exact .scan pat
  | values vars rows => exact .values vars rows
  | union l r ihl ihr => exact .union (ihl _) (ihr _)
  | graph i g ih => exact .graph g (ih _)
  | filter i c ih => exact .filter c (ih _)
  | join l r ihl ihr => exact .join _ (ihl _) (ihr _)
  | subquery i spec ih => exact .subquery spec (ih _)
  | bind i args out ih => exact .bind args out (ih _)

theorem impl_implNl (L : Logical) : Impl L (implNl L) := by
  induction L with
  | unit => exact .unit
  | empty => exact .empty
  | scan pat => exact .scan pat
  | values vars rows => exact .values vars rows
  | union l r ihl ihr => exact .union ihl ihr
  | graph i g ih => exact .graph g ih
  | filter i c ih => exact .filter c ih
  | join l r ihl ihr => exact .join .nl ihl ihr
  | subquery i spec ih => exact .subquery spec ih
  | bind i args out ih => exact .bind args out ih

theorem impl_implBind (L : Logical) : Impl L (implBind L) := by
  induction L with
  | unit => exact .unit
  | empty => exact .empty
  | scan pat => exact .scan pat
  | values vars rows => exact .values vars rows
  | union l r ihl ihr => exact .union ihl ihr
  | graph i g ih => exact .graph g ih
  | filter i c ih => exact .filter c ih
  | join l r ihl ihr => exact .join .bind ihl ihr
  | subquery i spec ih => exact .subquery spec ih
  | bind i args out ih => exact .bind args out ih

theorem planCertain_mkJoin (alg : JoinAlg) (l r : Plan) :
    planCertain (mkJoin alg l r) = planCertain l ++ planCertain r := by
  cases alg <;> rfl

theorem safeSyn_mkJoin (alg : JoinAlg) (l r : Plan) : safeSyn (mkJoin alg l r) = (safeSyn l && safeSyn r) := by
  cases alg <;> rfl

theorem planCertain_of_impl {L : Logical} {p : Plan} (h : Impl L p) : planCertain p = certainL L := by
  induction h with
  | unit | empty | scan | values | subquery | bind => rfl
  | union _ _ ihl ihr => simp only [planCertain, certainL, ihl, ihr]
  | graph _ _ ih | filter _ _ ih => exact ih
  | join alg _ _ ihl ihr => rw [planCertain_mkJoin, ihl, ihr]; rfl

theorem safeSyn_of_impl {L : Logical} {p : Plan} (h : Impl L p) (hs : safeL L = true) : safeSyn p = true := by
  induction h with
  | unit | empty | scan | values | subquery => rfl
  | bind => cases hs
  | union _ _ ihl ihr =>
    have hs := Bool.and_eq_true_iff.1 hs
    exact Bool.and_eq_true_iff.2 ⟨ihl hs.1, ihr hs.2⟩
  | graph _ _ ih => exact ih hs
  | filter c hi ih =>
    have hs := Bool.and_eq_true_iff.1 hs
    exact Bool.and_eq_true_iff.2 ⟨ih hs.1, by rw [planCertain_of_impl hi]; exact hs.2⟩
  | join alg _ _ ihl ihr =>
    have hs := Bool.and_eq_true_iff.1 hs
    rw [safeSyn_mkJoin, ihl hs.1, ihr hs.2]; rfl

theorem impl_unique {L : Logical} {p q : Plan} (hj : joinFree L = true) (hp : Impl L p) (hq : Impl L q) : p = q := by
  induction hp generalizing q with
  | unit | empty | scan | values => cases hq; rfl
  | join => cases hj
  | union _ _ ihl ihr =>
    have hj := Bool.and_eq_true_iff.1 hj
    cases hq with | union hl hr => rw [ihl hj.1 hl, ihr hj.2 hr]
  | graph _ _ ih => cases hq with | graph _ h => rw [ih hj h]
  | filter _ _ ih => cases hq with | filter _ h => rw [ih hj h]
  | subquery _ _ ih => cases hq with | subquery _ h => rw [ih hj h]
  | bind _ _ _ ih => cases hq with | bind _ _ h => rw [ih hj h]

/-- **The optimizer's choice of join algorithms is irrelevant**: any two implementations of a safe logical plan
    return the same multiset, on every canonical sequence of incoming solutions. -/
theorem impl_irrelevant (db : DB) {L : Logical} {p q : Plan} (h : safeL L = true) (hp : Impl L p) (hq : Impl L q)
    (ctx : Ctx) (hc : ctx.WF) (inc : List Row) (hi : AllWF inc) : exec db p ctx inc ~ exec db q ctx inc := by
  induction hp generalizing q ctx inc with
  | unit | empty | scan | values => cases hq; exact .refl _
  | bind => cases h
  | subquery spec hp' =>
    cases hq with | subquery _ hq' => rw [impl_unique h hp' hq']
  | union _ _ ihl ihr =>
    have h := Bool.and_eq_true_iff.1 h
    cases hq with | union hl hr =>
    simp only [exec_union]
    exact (ihl h.1 hl ctx hc inc hi).append (ihr h.2 hr ctx hc inc hi)
  | filter c _ ih =>
    have h := Bool.and_eq_true_iff.1 h
    cases hq with | filter _ hq' =>
    simp only [exec_filter]
    exact (ih h.1 hq' ctx hc inc hi).filter _
  | join alg _ hr ihl ihr =>
    have h := Bool.and_eq_true_iff.1 h
    cases hq with | join alg' hl' hr' =>
    refine (exec_mkJoin db _ _ _ (safe_of_safeSyn db _ (safeSyn_of_impl hr h.2)) ctx hc inc hi).trans ?_
    refine Perm.trans ?_ (exec_mkJoin db _ _ _ (safe_of_safeSyn db _ (safeSyn_of_impl hr' h.2)) ctx hc inc hi).symm
    exact (nlJoin_perm_left _ (ihl h.1 hl' ctx hc inc hi)).trans (nlJoin_perm_right _ (ihr h.2 hr' ctx hc _ allWF_unit))
  | graph g _ ih =>
    cases hq with | graph _ hq' =>
    cases g with
    | dflt => simp only [exec_graph_dflt]; exact ih h hq' { ctx with active := none } hc inc hi
    | named gn =>
      simp only [exec_graph_named]
      split
      · exact ih h hq' { ctx with active := some gn } hc inc hi
      · exact .refl _
    | var v =>
      simp only [exec_graph_var]
      refine perm_flatMap_congr _ _ _ fun row hrow => graphVarRow_perm db ctx v _ _ row fun g row' hm => ?_
      exact ih h hq' { ctx with active := some g } hc _ (allWF_singleton (matchTerm_wf _ _ row row' (hi row hrow) hm))

end Kolibrie.Engine
