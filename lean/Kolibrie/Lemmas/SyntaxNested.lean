import Kolibrie.Lemmas.Syntax
/-! Print/parse round trip for the whole nested fragment.  The parser functions are mutually recursive on the fuel, not on
the tree, so the five round-trip statements are bundled (`Stmts`) and proved together by strong induction on the fuel
(`stmts`). -/
namespace Kolibrie.Syntax

/-- first token of a group element -/
def elemStart : Tok → Bool
  | .term _ => true
  | .kw k => k == "GRAPH" || k == "FILTER"
  | .sym s => s == "{"

theorem braced_cons (d : Dots) (p : Pat) : ∃ ts, toksBraced d p = sy "{" :: ts := by
  cases p <;> exact ⟨_, by simp only [toksBraced]; rfl⟩

/-- the alternatives after the first, each behind its `UNION` -/
def toksUnionTail (d : Dots) : PatList → List Tok
  | .nil => []
  | .cons p ps => kwd "UNION" :: (toksBraced d p ++ toksUnionTail d ps)

theorem toksAlts_cons (d : Dots) : ∀ (p : Pat) (ps : PatList),
    toksAlts d (.cons p ps) = toksBraced d p ++ toksUnionTail d ps
  | p, .nil => by simp [toksAlts, toksUnionTail]
  | p, .cons q qs => by simp [toksAlts, toksAlts_cons d q qs, toksUnionTail]

theorem item_head (d : Dots) (p : Pat) (h : wfP p = true) : ∃ t ts, toksItem d p = t :: ts ∧ elemStart t = true := by
  cases p with
  | unit | join _ | sub _ => exact ⟨sy "{", _, by simp only [toksItem]; rfl, rfl⟩
  | bgp s pos => exact ⟨.term s, _, by simp only [toksItem]; rfl, rfl⟩
  | union ps =>
    cases ps with
    | nil => simp [wfP, PatList.length] at h
    | cons q qs =>
      obtain ⟨ts, hts⟩ := braced_cons d q
      exact ⟨sy "{", ts ++ toksUnionTail d qs, by rw [toksItem, toksAlts_cons, hts]; rfl, rfl⟩
  | graph n q => exact ⟨kwd "GRAPH", _, by simp only [toksItem]; rfl, by simp [elemStart, kwd]⟩
  | filter e => exact ⟨kwd "FILTER", _, by simp only [toksItem]; rfl, by simp [elemStart, kwd]⟩

theorem items_head (d : Dots) (ps : PatList) (rest : List Tok) (h : wfL ps = true) :
    ∃ t r, toksItems d ps ++ sy "}" :: rest = t :: r ∧ (elemStart t = true ∨ t = sy "}") := by
  cases ps with
  | nil => exact ⟨sy "}", rest, by simp [toksItems], Or.inr rfl⟩
  | cons p ps' =>
    simp only [wfL, Bool.and_eq_true] at h
    obtain ⟨t, ts, ht, hs⟩ := item_head d p h.1
    exact ⟨t, _, by rw [toksItems_cons, ht]; rfl, Or.inl hs⟩

theorem start_after {t : Tok} {r : List Tok} (h : elemStart t = true ∨ t = sy "}") : okAfterElem (t :: r) = true := by
  rcases h with h | h
  · cases t with
    | kw k => simp [elemStart] at h; rcases h with h | h <;> simp [okAfterElem, h]
    | term x => rfl
    | sym s => simp [elemStart] at h; simp [okAfterElem, h]
  · subst h; simp [okAfterElem, sy]

theorem start_dropDot {t : Tok} {r : List Tok} (h : elemStart t = true ∨ t = sy "}") : dropDot (t :: r) = t :: r := by
  rcases h with h | h
  · cases t with
    | kw k => rfl
    | term x => rfl
    | sym s => simp [elemStart] at h; simp [dropDot, h]
  · subst h; simp [dropDot, sy]

theorem start_ne_close {t : Tok} (h : elemStart t = true) : t ≠ .sym "}" := by
  intro hc; subst hc; simp [elemStart] at h

theorem start_ne_select {t : Tok} (h : elemStart t = true ∨ t = sy "}") : t ≠ .kw "SELECT" := by
  rcases h with h | h
  · intro hc; subst hc; simp [elemStart] at h
  · subst h; simp [sy]

theorem toksBraced_other (d : Dots) (x : Pat) (rest : List Tok) (h1 : x ≠ .unit) (h2 : ∀ ps, x ≠ .join ps) :
    toksBraced d x ++ rest = sy "{" :: (toksItem d x ++ (dotAfter d x true ++ sy "}" :: rest)) := by
  cases x with
  | unit => exact absurd rfl h1
  | join ps => exact absurd rfl (h2 ps)
  | _ => simp [toksBraced, toksItem, dotAfter, isFilter]

def wfOb (ob : List (Lexeme × Bool)) : Bool := ob.all (fun o => o.2 || isVarStart o.1)

def noOrdHead : List Tok → Bool
  | .kw k :: _ => !(k == "DESC" || k == "ASC")
  | .term (c :: _) :: _ => !(c == '?' || c == '$')
  | _ => true

theorem len_toksOrder : ∀ (ob : List (Lexeme × Bool)), ob.length ≤ (toksOrder ob).length
  | [] => by simp [toksOrder]
  | (v, false) :: r => by have := len_toksOrder r; simp [toksOrder]; omega
  | (v, true) :: r => by have := len_toksOrder r; simp [toksOrder]; omega

theorem parseOrder_stop (fuel : Nat) (rest : List Tok) (hr : noOrdHead rest = true) :
    parseOrder fuel rest = ([], rest) := by
  cases fuel with
  | zero => rfl
  | succ f =>
    cases rest with
    | nil => rfl
    | cons t r =>
      cases t with
      | kw k =>
        have hk : k ≠ "DESC" ∧ k ≠ "ASC" := by simpa [noOrdHead] using hr
        simp [parseOrder, hk.1, hk.2]
      | sym s => rfl
      | term x =>
        cases x with
        | nil => rfl
        | cons c cs =>
          have : (c == '?' || c == '$') = false := by simpa [noOrdHead] using hr
          simp [parseOrder, this]

theorem parseOrder_print : ∀ (ob : List (Lexeme × Bool)) (fuel : Nat) (rest : List Tok),
    wfOb ob = true → ob.length ≤ fuel → noOrdHead rest = true →
    parseOrder fuel (toksOrder ob ++ rest) = (ob, rest)
  | [], fuel, rest, _, _, hr => parseOrder_stop fuel rest hr
  | (v, false) :: r, fuel, rest, hw, hf, hr => by
    obtain ⟨f, rfl, hf'⟩ := fuel_ge 1 (a := r.length) hf
    simp only [wfOb, List.all_cons, Bool.false_or, Bool.and_eq_true] at hw
    have ih := parseOrder_print r f rest hw.2 hf' hr
    cases v with
    | nil => simp [isVarStart] at hw
    | cons c cs =>
      have hc : (c == '?' || c == '$') = true := by simpa [isVarStart] using hw.1
      simp [toksOrder, parseOrder, hc, ih]
  | (v, true) :: r, fuel, rest, hw, hf, hr => by
    obtain ⟨f, rfl, hf'⟩ := fuel_ge 1 (a := r.length) hf
    simp only [wfOb, List.all_cons, Bool.true_or, Bool.true_and] at hw
    have ih := parseOrder_print r f rest hw hf' hr
    simp [toksOrder, parseOrder, kwd, sy, ih]

/-- the modifier tokens exactly as `toksSel` prints them -/
def toksMods (gb : List Lexeme) (ob : List (Lexeme × Bool)) (lim : Option Nat) : List Tok :=
  (if gb.isEmpty then [] else kwd "GROUP" :: kwd "BY" :: gb.map .term) ++
    (if ob.isEmpty then [] else kwd "ORDER" :: kwd "BY" :: toksOrder ob) ++
    (match lim with | none => [] | some n => [kwd "LIMIT", .term (natDigits n)])

def limToks (lim : Option Nat) : List Tok :=
  match lim with | none => [] | some n => [kwd "LIMIT", .term (natDigits n)]

def ordToks (ob : List (Lexeme × Bool)) : List Tok :=
  if ob.isEmpty then [] else kwd "ORDER" :: kwd "BY" :: toksOrder ob

def grpToks (gb : List Lexeme) : List Tok :=
  if gb.isEmpty then [] else kwd "GROUP" :: kwd "BY" :: gb.map .term

theorem toksMods_eq (gb : List Lexeme) (ob : List (Lexeme × Bool)) (lim : Option Nat) (rest : List Tok) :
    toksMods gb ob lim ++ rest = grpToks gb ++ (ordToks ob ++ (limToks lim ++ rest)) := by
  simp [toksMods, grpToks, ordToks, limToks]

/-- what the clause parsers do where at most a LIMIT clause is left -/
theorem limToks_parse (lim : Option Nat) (rest : List Tok) (hr : endOk rest = true) :
    parseLimit (limToks lim ++ rest) = some (lim, rest) ∧
    parseOrderBy (limToks lim ++ rest) = some ([], limToks lim ++ rest) ∧
    parseGroupBy (limToks lim ++ rest) = some ([], limToks lim ++ rest) ∧
    noOrdHead (limToks lim ++ rest) = true ∧ noVarHead (limToks lim ++ rest) = true := by
  cases lim with
  | none =>
    cases rest with
    | nil => exact ⟨rfl, rfl, rfl, rfl, rfl⟩
    | cons t r => cases t with
      | kw k => simp [endOk] at hr
      | term x => simp [endOk] at hr
      | sym s => exact ⟨rfl, rfl, rfl, rfl, rfl⟩
  | some n =>
    simp [limToks, kwd, parseLimit, parseOrderBy, parseGroupBy, noOrdHead, noVarHead, allDigits_natDigits,
      lexNat_natDigits]

/-- the first part of `limToks_parse`, with `parseLimit` and `limToks` written out -/
theorem limit_print (lim : Option Nat) (rest : List Tok) (hr : endOk rest = true) :
    (match (match lim with | none => [] | some n => [kwd "LIMIT", Tok.term (natDigits n)]) ++ rest with
      | .kw "LIMIT" :: .term n :: r3 => if allDigits n then some (some (lexNat n), r3) else none
      | .kw "LIMIT" :: _ => none
      | r2 => some (none, r2)) = some (lim, rest) := by
  cases lim with
  | none =>
    cases rest with
    | nil => rfl
    | cons t r => cases t with
      | kw k => simp [endOk] at hr
      | term x => simp [endOk] at hr
      | sym s => rfl
  | some n => simp [kwd, allDigits_natDigits, lexNat_natDigits]

theorem order_step (ob : List (Lexeme × Bool)) (lim : Option Nat) (rest : List Tok)
    (hob : wfOb ob = true) (hr : endOk rest = true) :
    parseOrderBy (ordToks ob ++ (limToks lim ++ rest)) = some (ob, limToks lim ++ rest) := by
  obtain ⟨-, hstop, -, hno, -⟩ := limToks_parse lim rest hr
  cases ob with
  | nil => exact hstop
  | cons o os =>
    have hlen : (o :: os).length ≤ (toksOrder (o :: os) ++ (limToks lim ++ rest)).length := by
      have := len_toksOrder (o :: os); simp only [List.length_append]; omega
    have hO := parseOrder_print (o :: os) _ (limToks lim ++ rest) hob hlen hno
    simp only [ordToks, List.isEmpty_cons, Bool.false_eq_true, ↓reduceIte, List.cons_append, kwd, parseOrderBy]
    simp only [hO]
    rfl

/-- … and where no GROUP BY clause is left -/
theorem ordToks_parse (ob : List (Lexeme × Bool)) (lim : Option Nat) (rest : List Tok) (hr : endOk rest = true) :
    parseGroupBy (ordToks ob ++ (limToks lim ++ rest)) = some ([], ordToks ob ++ (limToks lim ++ rest)) ∧
    noVarHead (ordToks ob ++ (limToks lim ++ rest)) = true := by
  cases ob with
  | nil => exact ⟨(limToks_parse lim rest hr).2.2.1, (limToks_parse lim rest hr).2.2.2.2⟩
  | cons o os => simp [ordToks, kwd, parseGroupBy, noVarHead]

theorem group_step (gb : List Lexeme) (ob : List (Lexeme × Bool)) (lim : Option Nat) (rest : List Tok)
    (hgb : gb.all isVarStart = true) (hr : endOk rest = true) :
    parseGroupBy (grpToks gb ++ (ordToks ob ++ (limToks lim ++ rest))) = some (gb, ordToks ob ++ (limToks lim ++ rest)) := by
  cases gb with
  | nil => exact (ordToks_parse ob lim rest hr).1
  | cons g gs =>
    have hV := parseVars_print (g :: gs) _ hgb (ordToks_parse ob lim rest hr).2
    simp only [grpToks, List.isEmpty_cons, Bool.false_eq_true, ↓reduceIte, List.cons_append, kwd, parseGroupBy]
    simp only [List.map_cons, List.cons_append] at hV
    simp [hV]

theorem mods_print (gb : List Lexeme) (ob : List (Lexeme × Bool)) (lim : Option Nat) (rest : List Tok)
    (hgb : gb.all isVarStart = true) (hob : wfOb ob = true) (hr : endOk rest = true) :
    parseModifiers (toksMods gb ob lim ++ rest) = some (gb, ob, lim, rest) := by
  unfold parseModifiers
  rw [toksMods_eq, group_step gb ob lim rest hgb hr]
  simp only [order_step ob lim rest hob hr, (limToks_parse lim rest hr).1]

theorem braced_of_items (f k : Nat) (ps : PatList) (X rest : List Tok) (hg : guardOk k = true)
    (hX : ∃ t x, X = t :: x ∧ (elemStart t = true ∨ t = sy "}"))
    (hI : parseItems f (k + 1) X = some (ps, sy "}" :: rest)) :
    parseBraced (f + 1) k (sy "{" :: X) = some (collapse ps, rest) := by
  obtain ⟨t, x, rfl, ht⟩ := hX
  exact braced_items f k t x ps rest (start_ne_select ht) hg hI

theorem collapse_join (ps : PatList) (h : 2 ≤ ps.length) : collapse ps = .join ps := by
  cases ps with
  | nil => simp [PatList.length] at h
  | cons a ps' => cases ps' with
    | nil => simp [PatList.length] at h
    | cons b c => rfl

theorem elem_of_prim (f k : Nat) (t : Tok) (x : List Tok) (p : Pat) (rest : List Tok)
    (ht : t ≠ .kw "FILTER") (hP : parsePrimary (f + 1) k (t :: x) = some (p, rest))
    (hr : okAfterElem rest = true) :
    parseElem (f + 2) k (t :: x) = some (p, true, rest) := by
  unfold parseElem
  cases t with
  | kw y =>
    have hy : y ≠ "FILTER" := fun hc => ht (by rw [hc])
    simp [hy, hP, unionTail_stop f k _ rest hr]
  | term y => simp [hP, unionTail_stop f k _ rest hr]
  | sym y => simp [hP, unionTail_stop f k _ rest hr]

theorem elem_of_prim_union (f k : Nat) (x : List Tok) (p : Pat) (a : Pat) (as : PatList) (r1 rest : List Tok)
    (hP : parsePrimary (f + 1) k (sy "{" :: x) = some (p, r1))
    (hA : parseUnionTail (f + 1) k true r1 = some (.cons a as, rest)) :
    parseElem (f + 2) k (sy "{" :: x) = some (.union (.cons p (.cons a as)), true, rest) := by
  simp only [sy] at hP ⊢
  unfold parseElem
  simp [hP, hA]

theorem prim_graph (f k : Nat) (n : Lexeme) (X : List Tok) (p : Pat) (r : List Tok)
    (h : parseBraced f k X = some (p, r)) :
    parsePrimary (f + 1) k (kwd "GRAPH" :: .term n :: X) = some (.graph n p, r) := by
  simp [parsePrimary, kwd, h]

theorem prim_sub (f k : Nat) (X : List Tok) (q : Sel) (r : List Tok)
    (h : parseSel f k (kwd "SELECT" :: X) = some (q, sy "}" :: r)) :
    parsePrimary (f + 1) k (sy "{" :: kwd "SELECT" :: X) = some (.sub q, r) := by
  simp only [sy, kwd] at h ⊢
  simp [parsePrimary, h]

theorem unionTail_cons (f k : Nat) (p : Pat) (ps : PatList) (x R res : List Tok)
    (hP : parsePrimary f k (sy "{" :: x) = some (p, R)) (hT : parseUnionTail f k true R = some (ps, res)) :
    parseUnionTail (f + 1) k true (kwd "UNION" :: sy "{" :: x) = some (.cons p ps, res) := by
  simp only [sy, kwd] at hP ⊢
  simp [parseUnionTail, hP, hT]

theorem toksSel_eq (d : Dots) (dist : Bool) (vars : List Lexeme) (pat : Pat) (gb : List Lexeme)
    (ob : List (Lexeme × Bool)) (lim : Option Nat) (rest : List Tok) :
    toksSel d (.mk dist vars pat gb ob lim) ++ rest =
      kwd "SELECT" :: ((if dist then [kwd "DISTINCT"] else []) ++ (toksVars vars ++ (kwd "WHERE" ::
        (toksBraced d pat ++ (toksMods gb ob lim ++ rest))))) := by
  cases lim <;> simp [toksSel, toksMods]

/-- what the printer puts between an element and the next one (or the closing brace) is what the element loop skips -/
theorem dotAfter_skip (d : Dots) (p : Pat) (b : Bool) {t : Tok} (r : List Tok) (h : elemStart t = true ∨ t = sy "}") :
    okAfterElem (dotAfter d p b ++ t :: r) = true ∧
      (if (!isFilter p) = true then dropDot (dotAfter d p b ++ t :: r) else dotAfter d p b ++ t :: r) = t :: r := by
  unfold dotAfter
  cases isFilter p
  · rcases dotTok_cases d b with hd | hd <;> rw [hd]
    · simpa using ⟨start_after h, start_dropDot h⟩
    · simp [okAfterElem, dropDot, sy]
  · simpa using start_after h

theorem items_elem (d : Dots) (f k : Nat) (p : Pat) (ps : PatList) (b : Bool) (N res : List Tok) (hw : wfP p = true)
    (hN : ∃ t r, N = t :: r ∧ (elemStart t = true ∨ t = sy "}"))
    (hE : ∀ R, okAfterElem R = true → parseElem f k (toksItem d p ++ R) = some (p, !isFilter p, R))
    (hI : parseItems f k N = some (ps, res)) :
    parseItems (f + 1) k (toksItem d p ++ (dotAfter d p b ++ N)) = some (.cons p ps, res) := by
  obtain ⟨t, r, rfl, hs⟩ := hN
  obtain ⟨t', ts, ht, hs'⟩ := item_head d p hw
  have hD := dotAfter_skip d p b r hs
  have hE' := hE _ hD.1
  rw [ht, List.cons_append] at hE' ⊢
  exact items_cons f k p ps _ t' _ _ res (start_ne_close hs') hE' (by rw [hD.2]; exact hI)

theorem sel_of_parts (f k : Nat) (dist : Bool) (vars : List Lexeme) (pat : Pat) (gb : List Lexeme)
    (ob : List (Lexeme × Bool)) (lim : Option Nat) (X r3 r4 : List Tok) (hv : vars.all isVarStart = true)
    (hB : parseBraced f k X = some (pat, r3)) (hM : parseModifiers r3 = some (gb, ob, lim, r4)) :
    parseSel (f + 1) k (kwd "SELECT" :: ((if dist then [kwd "DISTINCT"] else []) ++ (toksVars vars ++ kwd "WHERE" :: X))) =
      some (.mk dist vars pat gb ob lim, r4) := by
  cases vars with
  | nil => cases dist <;> simp [parseSel, toksVars, sy, kwd, hB, hM]
  | cons v vs =>
    have hV := parseVars_print (v :: vs) (kwd "WHERE" :: X) hv (by simp [noVarHead, kwd])
    cases v with
    | nil => simp [isVarStart] at hv
    | cons c cs =>
      simp only [List.map_cons, List.cons_append, kwd] at hV
      cases dist <;> simp [parseSel, toksVars, kwd, hB, hM, hV]

/-- the five mutually dependent round-trip statements, for one fuel value -/
structure Stmts (d : Dots) (fuel : Nat) : Prop where
  elem : ∀ (p : Pat) (k : Nat) (rest : List Tok), wfP p = true → fitsItem k p = true → fuelP p ≤ fuel →
    okAfterElem rest = true → parseElem fuel k (toksItem d p ++ rest) = some (p, !isFilter p, rest)
  braced : ∀ (p : Pat) (k : Nat) (rest : List Tok), wfP p = true → fitsBraced k p = true → fuelP p + 3 ≤ fuel →
    parseBraced fuel k (toksBraced d p ++ rest) = some (p, rest)
  items : ∀ (ps : PatList) (k : Nat) (rest : List Tok), wfL ps = true → fitsItems k ps = true → fuelL ps ≤ fuel →
    parseItems fuel k (toksItems d ps ++ sy "}" :: rest) = some (ps, sy "}" :: rest)
  alts : ∀ (ps : PatList) (k : Nat) (rest : List Tok), wfL ps = true → fitsAlts k ps = true → fuelL ps ≤ fuel →
    okAfterElem rest = true → parseUnionTail fuel k true (toksUnionTail d ps ++ rest) = some (ps, rest)
  sel : ∀ (q : Sel) (k : Nat) (rest : List Tok), wfS q = true → fitsSel k q = true → fuelS q ≤ fuel →
    endOk rest = true → parseSel fuel k (toksSel d q ++ rest) = some (q, rest)

theorem fitsBraced_guard (k : Nat) (p : Pat) (h : fitsBraced k p = true) : guardOk k = true := by
  cases p <;> simp [fitsBraced] at h <;> first | exact h | exact h.1

theorem fitsBraced_item (k : Nat) (x : Pat) (h1 : x ≠ .unit) (h2 : ∀ ps, x ≠ .join ps)
    (h : fitsBraced k x = true) : fitsItem (k + 1) x = true := by
  cases x with
  | unit => exact absurd rfl h1
  | join ps => exact absurd rfl (h2 ps)
  | bgp s pos => rfl
  | _ => simp [fitsBraced] at h; simpa [fitsItem] using h.2

/-- `sparql_group_primary` takes the group branch on a printed braced group: its second token is never SELECT -/
theorem braced_prim (f k : Nat) (d : Dots) (p : Pat) (R : List Tok) (hw : wfP p = true) :
    parsePrimary (f + 1) k (toksBraced d p ++ R) = parseBraced f k (toksBraced d p ++ R) := by
  by_cases h1 : p = .unit
  · subst h1; exact prim_braced f k (sy "}") R (by simp [sy])
  · by_cases h2 : ∃ ps, p = .join ps
    · obtain ⟨ps, rfl⟩ := h2
      simp only [wfP, Bool.and_eq_true] at hw
      obtain ⟨t, r, hr, hs⟩ := items_head d ps R hw.2
      simp only [toksBraced, List.cons_append, List.append_assoc, List.nil_append, hr]
      exact prim_braced f k t r (start_ne_select hs)
    · obtain ⟨t, ts, ht, hs⟩ := item_head d p hw
      rw [toksBraced_other d p R h1 (fun ps hc => h2 ⟨ps, hc⟩), ht]
      exact prim_braced f k t _ (start_ne_select (.inl hs))

theorem braced_list {d : Dots} {f : Nat} (hS : Stmts d f) (k : Nat) (ps : PatList) (rest : List Tok)
    (hw : wfL ps = true) (hg : guardOk k = true) (hfit : fitsItems (k + 1) ps = true) (hf : fuelL ps ≤ f) :
    parseBraced (f + 1) k (sy "{" :: (toksItems d ps ++ sy "}" :: rest)) = some (collapse ps, rest) :=
  braced_of_items f k ps _ rest hg (items_head d ps rest hw) (hS.items ps (k + 1) rest hw hfit hf)

theorem elem_list {d : Dots} {f : Nat} (hS : Stmts d f) (k : Nat) (ps : PatList) (rest : List Tok)
    (hw : wfL ps = true) (hg : guardOk k = true) (hfit : fitsItems (k + 1) ps = true) (hf : fuelL ps ≤ f)
    (hr : okAfterElem rest = true) :
    parseElem (f + 3) k (sy "{" :: (toksItems d ps ++ sy "}" :: rest)) = some (collapse ps, true, rest) := by
  have hB := braced_list hS k ps rest hw hg hfit hf
  obtain ⟨t, r, hr', hs⟩ := items_head d ps rest hw
  rw [hr'] at hB ⊢
  rw [← prim_braced (f + 1) k t r (start_ne_select hs)] at hB
  exact elem_of_prim (f + 1) k (sy "{") _ _ rest (by simp [sy]) hB hr

theorem elem_step (d : Dots) (fuel : Nat) (ih : ∀ m, m < fuel → Stmts d m) :
    ∀ (p : Pat) (k : Nat) (rest : List Tok), wfP p = true → fitsItem k p = true → fuelP p ≤ fuel →
    okAfterElem rest = true → parseElem fuel k (toksItem d p ++ rest) = some (p, !isFilter p, rest) := by
  intro p k rest hw hfit hf hr
  cases p with
  | bgp s pos =>
    simp only [fuelP] at hf
    obtain ⟨f, rfl, hf⟩ := fuel_ge 3 hf
    exact elem_bgp f k d s pos rest (by simpa [wfP] using hw) (by omega) hr
  | filter e =>
    simp only [fuelP] at hf
    obtain ⟨f, rfl, hf⟩ := fuel_ge 1 hf
    exact elem_filter f k d e rest hw hfit (by omega)
  | unit =>
    simp only [fuelP] at hf
    obtain ⟨f, rfl, hf⟩ := fuel_ge 3 hf
    exact elem_list (ih f (by omega)) k .nil rest rfl hfit rfl (by simp only [fuelL]; omega) hr
  | join ps =>
    simp only [fuelP] at hf
    simp only [wfP, Bool.and_eq_true, decide_eq_true_eq] at hw
    simp only [fitsItem, Bool.and_eq_true] at hfit
    obtain ⟨f, rfl, hf⟩ := fuel_ge 3 hf
    have := elem_list (ih f (by omega)) k ps rest hw.2 hfit.1 hfit.2 (by omega) hr
    rw [collapse_join ps hw.1] at this
    simpa only [toksItem, isFilter, Bool.not_false, List.cons_append, List.append_assoc, List.nil_append] using this
  | graph n q =>
    simp only [fuelP] at hf
    obtain ⟨f, rfl, hf⟩ := fuel_ge 2 hf
    have hB := (ih f (by omega)).braced q k rest hw hfit (by omega)
    exact elem_of_prim f k (kwd "GRAPH") _ _ rest (by simp [kwd]) (prim_graph f k n _ q rest hB) hr
  | sub q =>
    simp only [fuelP] at hf
    obtain ⟨f, rfl, hf⟩ := fuel_ge 2 hf
    have hS := (ih f (by omega)).sel q k (sy "}" :: rest) hw hfit (by omega) (by simp [endOk, sy])
    obtain ⟨dist, vars, pat, gb, ob, lim⟩ := q
    have ht : toksItem d (.sub (.mk dist vars pat gb ob lim)) ++ rest =
        sy "{" :: (toksSel d (.mk dist vars pat gb ob lim) ++ sy "}" :: rest) := by simp [toksItem]
    rw [toksSel_eq] at hS
    rw [ht, toksSel_eq]
    exact elem_of_prim f k (sy "{") _ _ rest (by simp [sy]) (prim_sub f k _ _ rest hS) hr
  | union ps =>
    cases ps with
    | nil => simp [wfP, PatList.length] at hw
    | cons p0 ps1 =>
      simp only [wfP, wfL, PatList.length, Bool.and_eq_true] at hw
      simp only [fitsItem, fitsAlts, Bool.and_eq_true] at hfit
      simp only [fuelP, fuelL] at hf
      obtain ⟨f, rfl, hf⟩ := fuel_ge 2 hf
      have hB := (ih f (by omega)).braced p0 k (toksUnionTail d ps1 ++ rest) hw.2.1 hfit.1 (by omega)
      rw [← braced_prim f k d p0 _ hw.2.1] at hB
      have hT := (ih (f + 1) (by omega)).alts ps1 k rest hw.2.2 hfit.2 (by omega) hr
      obtain ⟨ts, hts⟩ := braced_cons d p0
      rw [toksItem, toksAlts_cons, List.append_assoc]
      rw [hts, List.cons_append] at hB ⊢
      cases ps1 with
      | nil => simp [PatList.length] at hw
      | cons p1 ps2 => exact elem_of_prim_union f k _ p0 p1 ps2 _ rest hB hT

theorem braced_step (d : Dots) (fuel : Nat) (ih : ∀ m, m < fuel → Stmts d m) :
    ∀ (p : Pat) (k : Nat) (rest : List Tok), wfP p = true → fitsBraced k p = true → fuelP p + 3 ≤ fuel →
    parseBraced fuel k (toksBraced d p ++ rest) = some (p, rest) := by
  intro p k rest hw hfit hf
  have hg := fitsBraced_guard k p hfit
  by_cases h1 : p = .unit
  · subst h1
    simp only [fuelP] at hf
    obtain ⟨f, rfl, hf⟩ := fuel_ge 1 hf
    exact braced_list (ih f (by omega)) k .nil rest rfl hg rfl (by simp only [fuelL]; omega)
  · by_cases h2 : ∃ ps, p = .join ps
    · obtain ⟨ps, rfl⟩ := h2
      simp only [fuelP] at hf
      simp only [fitsBraced, Bool.and_eq_true] at hfit
      simp only [wfP, Bool.and_eq_true, decide_eq_true_eq] at hw
      obtain ⟨f, rfl, hf⟩ := fuel_ge 1 hf
      have := braced_list (ih f (by omega)) k ps rest hw.2 hg hfit.2 (by omega)
      rw [collapse_join ps hw.1] at this
      simpa only [toksBraced, List.cons_append, List.append_assoc, List.nil_append] using this
    · have h2' : ∀ ps, p ≠ .join ps := fun ps hc => h2 ⟨ps, hc⟩
      obtain ⟨g, rfl, hf⟩ := fuel_ge 3 hf
      rw [toksBraced_other d p rest h1 h2']
      have hI := items_elem d (g + 1) (k + 1) p .nil true (sy "}" :: rest) _ hw ⟨_, _, rfl, Or.inr rfl⟩
        (fun R hR => (ih (g + 1) (by omega)).elem p (k + 1) R hw (fitsBraced_item k p h1 h2' hfit) (by omega) hR)
        (items_nil g (k + 1) rest)
      obtain ⟨t, ts, ht, hs⟩ := item_head d p hw
      exact braced_of_items (g + 2) k _ _ rest hg ⟨t, _, by rw [ht]; rfl, Or.inl hs⟩ hI

theorem items_step (d : Dots) (fuel : Nat) (ih : ∀ m, m < fuel → Stmts d m) :
    ∀ (ps : PatList) (k : Nat) (rest : List Tok), wfL ps = true → fitsItems k ps = true → fuelL ps ≤ fuel →
    parseItems fuel k (toksItems d ps ++ sy "}" :: rest) = some (ps, sy "}" :: rest) := by
  intro ps k rest hw hfit hf
  cases ps with
  | nil =>
    obtain ⟨f, rfl, -⟩ := fuel_ge 1 (a := 1) hf
    exact items_nil f k rest
  | cons p ps' =>
    simp only [wfL, Bool.and_eq_true] at hw
    simp only [fitsItems, Bool.and_eq_true] at hfit
    simp only [fuelL] at hf
    obtain ⟨f, rfl, hf⟩ := fuel_ge 1 hf
    rw [toksItems_cons]
    exact items_elem d f k p ps' (isNilL ps') _ _ hw.1 (items_head d ps' rest hw.2)
      (fun R hR => (ih f (by omega)).elem p k R hw.1 hfit.1 (by omega) hR)
      ((ih f (by omega)).items ps' k rest hw.2 hfit.2 (by omega))

theorem alts_step (d : Dots) (fuel : Nat) (ih : ∀ m, m < fuel → Stmts d m) :
    ∀ (ps : PatList) (k : Nat) (rest : List Tok), wfL ps = true → fitsAlts k ps = true → fuelL ps ≤ fuel →
    okAfterElem rest = true → parseUnionTail fuel k true (toksUnionTail d ps ++ rest) = some (ps, rest) := by
  intro ps k rest hw hfit hf hr
  cases ps with
  | nil =>
    obtain ⟨f, rfl, -⟩ := fuel_ge 1 (a := 1) hf
    exact unionTail_stop f k true rest hr
  | cons p ps =>
    simp only [wfL, Bool.and_eq_true] at hw
    simp only [fitsAlts, Bool.and_eq_true] at hfit
    simp only [fuelL] at hf
    obtain ⟨f, rfl, hf⟩ := fuel_ge 2 hf
    have hB := (ih f (by omega)).braced p k (toksUnionTail d ps ++ rest) hw.1 hfit.1 (by omega)
    rw [← braced_prim f k d p _ hw.1] at hB
    have hT := (ih (f + 1) (by omega)).alts ps k rest hw.2 hfit.2 (by omega) hr
    obtain ⟨ts, hts⟩ := braced_cons d p
    rw [toksUnionTail, List.cons_append, List.append_assoc]
    rw [hts, List.cons_append] at hB ⊢
    exact unionTail_cons (f + 1) k p ps _ _ rest hB hT

theorem sel_step (d : Dots) (fuel : Nat) (ih : ∀ m, m < fuel → Stmts d m) :
    ∀ (q : Sel) (k : Nat) (rest : List Tok), wfS q = true → fitsSel k q = true → fuelS q ≤ fuel →
    endOk rest = true → parseSel fuel k (toksSel d q ++ rest) = some (q, rest) := by
  intro q k rest hw hfit hf hr
  obtain ⟨dist, vars, pat, gb, ob, lim⟩ := q
  simp only [fuelS] at hf
  obtain ⟨f, rfl, hf⟩ := fuel_ge 1 hf
  simp only [wfS, Bool.and_eq_true] at hw
  obtain ⟨⟨⟨hv, hp⟩, hgb⟩, hob⟩ := hw
  rw [toksSel_eq]
  exact sel_of_parts f k dist vars pat gb ob lim _ _ rest hv
    ((ih f (by omega)).braced pat k _ hp hfit (by omega)) (mods_print gb ob lim rest hgb hob hr)

theorem stmts (d : Dots) : ∀ fuel, Stmts d fuel := fun fuel =>
  Nat.strongRecOn fuel fun n ih =>
    ⟨elem_step d n ih, braced_step d n ih, items_step d n ih, alts_step d n ih, sel_step d n ih⟩

/-! ### the flat fragment is part of the nested one -/

theorem flatList_wf : ∀ ps : PatList, flatList ps = true → wfL ps = true
  | .nil, _ => rfl
  | .cons p ps, h => by
    simp only [flatList, Bool.and_eq_true] at h
    have hp : wfP p = true := by cases p <;> first | exact h.1 | cases h.1
    simp only [wfL, hp, flatList_wf ps h.2, Bool.and_self]

theorem flatPat_wf (p : Pat) (h : flatPat p = true) : wfP p = true := by
  cases p with
  | join ps =>
    simp only [flatPat, Bool.and_eq_true] at h
    simp only [wfP, h.1, flatList_wf ps h.2, Bool.and_self]
  | unit | bgp _ _ | filter _ => exact h
  | union _ | graph _ _ | sub _ => cases h

theorem sel_flat (d : Dots) (q : Sel) (k fuel : Nat) (rest : List Tok)
    (hq : flatSel q = true) (hfit : fitsSel k q = true) (hf : fuelS q + 9 ≤ fuel) (hr : endOk rest = true) :
    parseSel fuel k (toksSel d q ++ rest) = some (q, rest) := by
  obtain ⟨dist, vars, pat, gb, ob, lim⟩ := q
  simp only [flatSel, Bool.and_eq_true, List.isEmpty_iff] at hq
  obtain ⟨⟨⟨⟨hv, hp⟩, rfl⟩, rfl⟩, -⟩ := hq
  exact (stmts d fuel).sel _ k rest (by simp [wfS, hv, flatPat_wf pat hp]) hfit (by omega) hr

end Kolibrie.Syntax
