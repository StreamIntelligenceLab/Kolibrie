import Kolibrie.Model.Datalog
import Kolibrie.Spec.LeastModel
/-!
Lemmas for C05 (core Lean only).

A list of binding rows is read as the set of total valuations that some row agrees with (`Covers`): a join
intersects that set with the valuations satisfying the premise, `fire` takes its image under the rule heads.
Every round function then has one membership characterisation by immediate consequences (`ConseqOf`, with the
condition on the rule instance as a variable), and the fixpoint loops are reasoned about through `Run`.
-/
namespace Kolibrie.Datalog

/-! ### rows -/

def Agrees (σ : Nat → Nat) (row : Row) : Prop := ∀ v x, row.get v = some x → σ v = x

def Bound (row : Row) (v : Nat) : Prop := ∃ x, row.get v = some x

def Covers (rows : List Row) (σ : Nat → Nat) : Prop := ∃ row ∈ rows, Agrees σ row

theorem Row.get_nil (v : Nat) : Row.get [] v = none := rfl

theorem Row.get_cons (a b : Nat) (r : Row) (v : Nat) :
    Row.get ((a, b) :: r) v = if v = a then some b else r.get v := by
  rw [Row.get, List.lookup_cons]
  by_cases h : v = a
  · rw [if_pos h, beq_iff_eq.2 h]
  · rw [if_neg h, beq_false_of_ne h]; rfl

theorem agrees_nil (σ : Nat → Nat) : Agrees σ [] := fun _ _ h => nomatch h

theorem covers_nil (σ : Nat → Nat) : Covers [[]] σ := ⟨[], List.mem_singleton.2 rfl, agrees_nil σ⟩

def rowVal (row : Row) : Nat → Nat := fun v => (row.get v).getD 0

theorem agrees_rowVal (row : Row) : Agrees (rowVal row) row := by
  intro v x h; simp [rowVal, h]

theorem bound_cons {w x : Nat} {row : Row} {v : Nat} : Bound ((w, x) :: row) v ↔ v = w ∨ Bound row v := by
  unfold Bound
  rw [Row.get_cons]
  by_cases e : v = w
  · rw [if_pos e]; exact ⟨fun _ => .inl e, fun _ => ⟨x, rfl⟩⟩
  · rw [if_neg e]; exact ⟨.inr, fun h => h.resolve_left e⟩

theorem agrees_cons {w x : Nat} {row : Row} {σ : Nat → Nat} (hw : row.get w = none) :
    Agrees σ ((w, x) :: row) ↔ Agrees σ row ∧ σ w = x := by
  constructor
  · intro h
    refine ⟨fun v z hv => h v z ?_, h w x (by rw [Row.get_cons, if_pos rfl])⟩
    have e : v ≠ w := fun e => by rw [e, hw] at hv; cases hv
    rw [Row.get_cons, if_neg e, hv]
  · rintro ⟨h, hx⟩ v z hv
    rw [Row.get_cons] at hv
    by_cases e : v = w
    · rw [if_pos e] at hv; cases hv; rw [e]; exact hx
    · rw [if_neg e] at hv; exact h v z hv

theorem covers_flatMap {α} {l : List α} {g : α → List Row} {σ : Nat → Nat} :
    Covers (l.flatMap g) σ ↔ ∃ a ∈ l, Covers (g a) σ := by
  constructor
  · rintro ⟨row, hr, hσ⟩
    obtain ⟨a, ha, hra⟩ := List.mem_flatMap.1 hr
    exact ⟨a, ha, row, hra, hσ⟩
  · rintro ⟨a, ha, row, hr, hσ⟩
    exact ⟨row, List.mem_flatMap.2 ⟨a, ha, hr⟩, hσ⟩

/-! ### matching -/

theorem matchTerm_some {t : Term} {x : Nat} {row row' : Row} (h : matchTerm t x row = some row') :
    (∀ v, Bound row v ∨ v ∈ t.vars → Bound row' v) ∧
      ∀ σ, Agrees σ row' ↔ Agrees σ row ∧ t.eval σ = x := by
  cases t with
  | const c =>
    by_cases hc : c = x
    · rw [matchTerm, if_pos hc] at h
      cases h
      exact ⟨fun v hv => hv.resolve_right (by simp [Term.vars]), fun σ => (and_iff_left hc).symm⟩
    · rw [matchTerm, if_neg hc] at h; cases h
  | var w =>
    rw [matchTerm] at h
    cases hg : row.get w with
    | some y =>
      rw [hg] at h
      dsimp only at h
      by_cases hy : y = x
      · rw [if_pos hy] at h
        cases h
        refine ⟨fun v hv => hv.elim id fun hv => ?_,
          fun σ => ⟨fun hσ => ⟨hσ, hy ▸ hσ w y hg⟩, And.left⟩⟩
        rw [List.mem_singleton.1 hv]; exact ⟨y, hg⟩
      · rw [if_neg hy] at h; cases h
    | none =>
      rw [hg] at h
      cases h
      exact ⟨fun v hv => bound_cons.2 (hv.symm.imp_left List.mem_singleton.1), fun σ => agrees_cons hg⟩

theorem matchTerm_isSome {t : Term} {x : Nat} {row : Row} {σ : Nat → Nat} (hσ : Agrees σ row)
    (he : t.eval σ = x) : ∃ row', matchTerm t x row = some row' := by
  cases t with
  | const c => exact ⟨row, if_pos he⟩
  | var w =>
    rw [matchTerm]
    cases hg : row.get w with
    | some y => exact ⟨row, if_pos ((hσ w y hg).symm.trans he)⟩
    | none => exact ⟨_, rfl⟩

theorem matchPat_some {p : Pat} {f : Fact} {row row' : Row} (h : matchPat p f row = some row') :
    (∀ v, Bound row v ∨ v ∈ p.vars → Bound row' v) ∧
      ∀ σ, Agrees σ row' ↔ Agrees σ row ∧ p.eval σ = f := by
  simp only [matchPat, Option.bind_eq_some_iff] at h
  obtain ⟨r1, h1, r2, h2, h3⟩ := h
  obtain ⟨b1, a1⟩ := matchTerm_some h1
  obtain ⟨b2, a2⟩ := matchTerm_some h2
  obtain ⟨b3, a3⟩ := matchTerm_some h3
  constructor
  · intro v hv
    simp only [Pat.vars, List.mem_append] at hv
    rcases hv with hv | (hv | hv) | hv
    · exact b3 v (.inl (b2 v (.inl (b1 v (.inl hv)))))
    · exact b3 v (.inl (b2 v (.inl (b1 v (.inr hv)))))
    · exact b3 v (.inl (b2 v (.inr hv)))
    · exact b3 v (.inr hv)
  · intro σ
    cases f
    simp only [a3 σ, a2 σ, a1 σ, Pat.eval, Fact.mk.injEq, and_assoc]

theorem matchPat_isSome {p : Pat} {f : Fact} {row : Row} {σ : Nat → Nat} (hσ : Agrees σ row)
    (he : p.eval σ = f) : ∃ row', matchPat p f row = some row' := by
  subst he
  obtain ⟨r1, h1⟩ := matchTerm_isSome (t := p.s) hσ rfl
  obtain ⟨r2, h2⟩ := matchTerm_isSome (t := p.p) (((matchTerm_some h1).2 σ).2 ⟨hσ, rfl⟩) rfl
  obtain ⟨r3, h3⟩ := matchTerm_isSome (t := p.o)
    (((matchTerm_some h2).2 σ).2 ⟨((matchTerm_some h1).2 σ).2 ⟨hσ, rfl⟩, rfl⟩) rfl
  exact ⟨r3, by simp [matchPat, Pat.eval, h1, h2, h3]⟩

/-! ### joining premises -/

theorem mem_joinPremise {p : Pat} {facts : List Fact} {rows : List Row} {row' : Row} :
    row' ∈ joinPremise p facts rows ↔ ∃ f ∈ facts, ∃ row ∈ rows, matchPat p f row = some row' := by
  simp only [joinPremise, List.mem_flatMap, List.mem_filterMap]

theorem covers_joinPremise {p : Pat} {G : List Fact} {rows : List Row} {σ : Nat → Nat} :
    Covers (joinPremise p G rows) σ ↔ Covers rows σ ∧ p.eval σ ∈ G := by
  constructor
  · rintro ⟨row', hr', hσ⟩
    obtain ⟨f, hf, row, hrow, hm⟩ := mem_joinPremise.1 hr'
    obtain ⟨h0, rfl⟩ := ((matchPat_some hm).2 σ).1 hσ
    exact ⟨⟨row, hrow, h0⟩, hf⟩
  · rintro ⟨⟨row, hrow, hσ⟩, hG⟩
    obtain ⟨row', hm⟩ := matchPat_isSome hσ rfl
    exact ⟨row', mem_joinPremise.2 ⟨_, hG, row, hrow, hm⟩, ((matchPat_some hm).2 σ).2 ⟨hσ, rfl⟩⟩

theorem covers_solveFrom {G : List Fact} {ps : List Pat} {rows : List Row} {σ : Nat → Nat} :
    Covers (solveFrom G ps rows) σ ↔ Covers rows σ ∧ ∀ p ∈ ps, p.eval σ ∈ G := by
  induction ps generalizing rows with
  | nil => simp [solveFrom]
  | cons p ps ih => rw [solveFrom, ih, covers_joinPremise, List.forall_mem_cons, and_assoc]

def Binds (rows : List Row) (V : Nat → Prop) : Prop := ∀ row ∈ rows, ∀ v, V v → Bound row v

theorem binds_nil : Binds [[]] fun _ => False := fun _ _ _ h => h.elim

theorem Binds.joinPremise {p : Pat} {G : List Fact} {rows : List Row} {V : Nat → Prop} (hb : Binds rows V) :
    Binds (joinPremise p G rows) fun v => V v ∨ v ∈ p.vars := by
  intro row' hr' v hv
  obtain ⟨_, _, row, hrow, hm⟩ := mem_joinPremise.1 hr'
  exact (matchPat_some hm).1 v (hv.imp_left (hb row hrow v))

theorem Binds.solveFrom {G : List Fact} {ps : List Pat} {rows : List Row} {V : Nat → Prop} (hb : Binds rows V) :
    Binds (solveFrom G ps rows) fun v => V v ∨ v ∈ patsVars ps := by
  induction ps generalizing rows V with
  | nil => exact fun row hr v hv => hb row hr v (hv.resolve_right (by simp [patsVars]))
  | cons p ps ih =>
    intro row hr v hv
    refine ih hb.joinPremise row hr v ?_
    simp only [patsVars, List.flatMap_cons, List.mem_append] at hv ⊢
    exact or_assoc.2 hv

theorem solveFrom_mono_rows {G : List Fact} {ps : List Pat} {rows rows' : List Row}
    (h : ∀ r ∈ rows, r ∈ rows') : ∀ r ∈ solveFrom G ps rows, r ∈ solveFrom G ps rows' := by
  induction ps generalizing rows rows' with
  | nil => exact h
  | cons p ps ih =>
    apply ih
    intro r hr
    obtain ⟨f, hf, row, hrow, hm⟩ := mem_joinPremise.1 hr
    exact mem_joinPremise.2 ⟨f, hf, row, h row hrow, hm⟩

/-! ### instantiation and filters -/

theorem Term.inst_eq_eval {t : Term} {row : Row} {σ : Nat → Nat}
    (hb : ∀ v ∈ t.vars, Bound row v) (hσ : Agrees σ row) : t.inst row = t.eval σ := by
  cases t with
  | const c => rfl
  | var v =>
    obtain ⟨x, hx⟩ := hb v (List.mem_singleton.2 rfl)
    simp [Term.inst, Term.eval, hx, hσ v x hx]

theorem Pat.forall_mem_vars {p : Pat} {Q : Nat → Prop} :
    (∀ v ∈ p.vars, Q v) ↔ (∀ v ∈ p.s.vars, Q v) ∧ (∀ v ∈ p.p.vars, Q v) ∧ ∀ v ∈ p.o.vars, Q v := by
  simp only [Pat.vars, List.forall_mem_append, and_assoc]

theorem Pat.inst_eq_eval {p : Pat} {row : Row} {σ : Nat → Nat}
    (hb : ∀ v ∈ p.vars, Bound row v) (hσ : Agrees σ row) : p.inst row = p.eval σ := by
  obtain ⟨h1, h2, h3⟩ := Pat.forall_mem_vars.1 hb
  unfold Pat.inst
  rw [Pat.eval, Term.inst_eq_eval h1 hσ, Term.inst_eq_eval h2 hσ, Term.inst_eq_eval h3 hσ]

theorem evalFilter_congr {val : Nat → Int} {g g' : Nat → Option Nat} {f : Filter}
    (h : ∀ v ∈ f.vars, g v = g' v) : evalFilter val g f = evalFilter val g' f := by
  have h1 : g f.v = g' f.v := h f.v (by simp [Filter.vars])
  unfold evalFilter
  rw [h1]
  cases hr : f.rhs with
  | num n => rfl
  | var w =>
    have h2 : g w = g' w := h w (by simp [Filter.vars, hr])
    simp only [h2]

theorem filtersOk_congr {val : Nat → Int} {g g' : Nat → Option Nat} {fs : List Filter}
    (h : ∀ v ∈ fs.flatMap Filter.vars, g v = g' v) : filtersOk val g fs = filtersOk val g' fs := by
  simp only [List.mem_flatMap] at h
  rw [filtersOk, filtersOk, Bool.eq_iff_iff, List.all_eq_true, List.all_eq_true]
  exact forall_congr' fun f => forall_congr' fun hf => by rw [evalFilter_congr fun v hv => h v ⟨f, hf, hv⟩]

theorem filtersOk_row {val : Nat → Int} {row : Row} {σ : Nat → Nat} {fs : List Filter}
    (hb : ∀ v ∈ fs.flatMap Filter.vars, Bound row v) (hσ : Agrees σ row) :
    filtersOk val row.get fs = true ↔ FiltersHold val σ fs := by
  unfold FiltersHold
  rw [filtersOk_congr]
  intro v hv
  obtain ⟨x, hx⟩ := hb v hv
  rw [hx, hσ v x hx]

/-! ### `freshOf` -/

theorem mem_freshOf {known l : List Fact} {f : Fact} : f ∈ freshOf known l ↔ f ∈ l ∧ f ∉ known := by
  induction l with
  | nil => simp [freshOf]
  | cons a l ih =>
    rw [freshOf]
    by_cases h : a ∈ known ∨ a ∈ freshOf known l
    · rw [if_pos h, ih, List.mem_cons]
      refine ⟨fun h' => ⟨.inr h'.1, h'.2⟩, fun h' => ⟨h'.1.elim (fun e => ?_) id, h'.2⟩⟩
      -- `f = a`: not known, hence already among the fresh members of `l`
      subst e
      exact h.elim (absurd · h'.2) fun h => (ih.1 h).1
    · rw [if_neg h, List.mem_cons, List.mem_cons, ih]
      have hk : a ∉ known := fun x => h (.inl x)
      exact ⟨fun h' => h'.elim (fun e => ⟨.inl e, e ▸ hk⟩) fun h' => ⟨.inr h'.1, h'.2⟩,
        fun h' => h'.1.imp_right fun h1 => ⟨h1, h'.2⟩⟩

theorem freshOf_eq_nil {known l : List Fact} : freshOf known l = [] ↔ ∀ f ∈ l, f ∈ known := by
  rw [List.eq_nil_iff_forall_not_mem]
  exact forall_congr' fun f => by rw [mem_freshOf, not_and, Classical.not_not]

theorem mem_append_freshOf {all new : List Fact} {f : Fact} :
    f ∈ all ++ freshOf all new ↔ f ∈ all ∨ f ∈ new := by
  rw [List.mem_append, mem_freshOf]
  exact ⟨fun h => h.imp_right And.left,
    fun h => (Classical.em (f ∈ all)).imp_right fun hk => ⟨h.resolve_left hk, hk⟩⟩

theorem nodup_append_freshOf {all : List Fact} (new : List Fact) (h : all.Nodup) :
    (all ++ freshOf all new).Nodup := by
  refine List.nodup_append.2 ⟨h, ?_, fun a ha b hb e => (mem_freshOf.1 hb).2 (e ▸ ha)⟩
  induction new with
  | nil => exact List.nodup_nil
  | cons a l ih =>
    rw [freshOf]
    by_cases h : a ∈ all ∨ a ∈ freshOf all l
    · rw [if_pos h]; exact ih
    · rw [if_neg h]; exact List.nodup_cons.2 ⟨fun hm => h (.inr hm), ih⟩

/-! ### immediate consequences -/

variable {val : Nat → Int} {P : List Rule} {F S all : List Fact} {f : Fact}

/-- The strategies differ only in the condition `C` their joins impose on the rule instance `(r, σ)`.
    `Conseq val P S` is the case `C r σ := ∀ p ∈ r.premise, S (p.eval σ)`, definitionally. -/
def ConseqOf (val : Nat → Int) (P : List Rule) (C : Rule → (Nat → Nat) → Prop) (f : Fact) : Prop :=
  ∃ r ∈ P, ∃ σ : Nat → Nat, C r σ ∧ FiltersHold val σ r.filters ∧ ∃ c ∈ r.conclusion, f = c.eval σ

/-- `f` is an immediate consequence of the facts satisfying `S` (rules read positively) -/
def Conseq (val : Nat → Int) (P : List Rule) (S : Fact → Prop) (f : Fact) : Prop :=
  ∃ r ∈ P, ∃ σ : Nat → Nat, (∀ p ∈ r.premise, S (p.eval σ)) ∧ FiltersHold val σ r.filters ∧
    ∃ c ∈ r.conclusion, f = c.eval σ

def Closed (val : Nat → Int) (P : List Rule) (S : List Fact) : Prop :=
  ∀ f, Conseq val P (· ∈ S) f → f ∈ S

theorem ConseqOf.mono {C C' : Rule → (Nat → Nat) → Prop} (h : ∀ r ∈ P, ∀ σ, C r σ → C' r σ) :
    ConseqOf val P C f → ConseqOf val P C' f := by
  rintro ⟨r, hr, σ, hC, rest⟩
  exact ⟨r, hr, σ, h r hr σ hC, rest⟩

theorem conseqOf_congr {C C' : Rule → (Nat → Nat) → Prop} (h : ∀ r ∈ P, ∀ σ, C r σ ↔ C' r σ) :
    ConseqOf val P C f ↔ ConseqOf val P C' f :=
  ⟨.mono fun r hr σ => (h r hr σ).1, .mono fun r hr σ => (h r hr σ).2⟩

theorem conseq_mono {S T : Fact → Prop} (h : ∀ f, S f → T f) :
    Conseq val P S f → Conseq val P T f :=
  ConseqOf.mono (C := fun r σ => ∀ p ∈ r.premise, S (p.eval σ)) fun _ _ _ hp p hpp => h _ (hp p hpp)

theorem conseq_congr {a a' : List Fact} (h : ∀ f, f ∈ a ↔ f ∈ a') :
    Conseq val P (· ∈ a) f ↔ Conseq val P (· ∈ a') f :=
  ⟨conseq_mono fun g => (h g).1, conseq_mono fun g => (h g).2⟩

theorem Rule.safe_iff (r : Rule) : r.safe = true ↔
    r.premise ≠ [] ∧ (∀ v ∈ patsVars r.conclusion, v ∈ patsVars r.premise) ∧
    (∀ v ∈ r.filters.flatMap Filter.vars, v ∈ patsVars r.premise) ∧
    (∀ v ∈ patsVars r.negative, v ∈ patsVars r.premise) := by
  simp only [Rule.safe, negSafe, Bool.and_eq_true, List.all_eq_true, decide_eq_true_eq, Bool.not_eq_true',
    List.isEmpty_eq_false_iff, ne_eq, and_assoc]

theorem safe_of_allSafe {r : Rule} (hs : allSafe P = true) (hr : r ∈ P) : r.safe = true :=
  List.all_eq_true.1 hs r hr

theorem allSafe_of_subset {Q : List Rule} (h : ∀ r ∈ Q, r ∈ P) (hs : allSafe P = true) : allSafe Q = true :=
  List.all_eq_true.2 fun r hr => safe_of_allSafe hs (h r hr)

theorem mem_patsVars {ps : List Pat} {v : Nat} : v ∈ patsVars ps ↔ ∃ p ∈ ps, v ∈ p.vars := List.mem_flatMap

theorem mem_fire {r : Rule} {rows : List Row} :
    f ∈ fire val r rows ↔ ∃ row ∈ rows, filtersOk val row.get r.filters = true ∧ f ∈ concl r row := by
  simp only [fire, concl, List.mem_flatMap, List.mem_filter, and_assoc]

theorem mem_concl {r : Rule} {row : Row} : f ∈ concl r row ↔ ∃ c ∈ r.conclusion, f = c.inst row := by
  simp only [concl, List.mem_map, eq_comm]

theorem mem_fire_iff {r : Rule} {rows : List Row} (hs : r.safe = true)
    (hb : Binds rows (· ∈ patsVars r.premise)) :
    f ∈ fire val r rows ↔
      ∃ σ : Nat → Nat, Covers rows σ ∧ FiltersHold val σ r.filters ∧ ∃ c ∈ r.conclusion, f = c.eval σ := by
  obtain ⟨_, hcv, hfv, _⟩ := (Rule.safe_iff r).1 hs
  -- on such a row the filters and the heads can be read under any agreeing valuation
  have key : ∀ row ∈ rows, ∀ σ, Agrees σ row →
      (filtersOk val row.get r.filters = true ↔ FiltersHold val σ r.filters) ∧
      ∀ c ∈ r.conclusion, c.inst row = c.eval σ :=
    fun row hrow σ hσ => ⟨filtersOk_row (fun v hv => hb row hrow v (hfv v hv)) hσ, fun c hc =>
      Pat.inst_eq_eval (fun v hv => hb row hrow v (hcv v (mem_patsVars.2 ⟨c, hc, hv⟩))) hσ⟩
  simp only [mem_fire, mem_concl]
  constructor
  · rintro ⟨row, hrow, hfo, c, hc, rfl⟩
    obtain ⟨k1, k2⟩ := key row hrow _ (agrees_rowVal row)
    exact ⟨rowVal row, ⟨row, hrow, agrees_rowVal row⟩, k1.1 hfo, c, hc, k2 c hc⟩
  · rintro ⟨σ, ⟨row, hrow, hσ⟩, hfl, c, hc, rfl⟩
    obtain ⟨k1, k2⟩ := key row hrow σ hσ
    exact ⟨row, hrow, k1.2 hfl, c, hc, (k2 c hc).symm⟩

theorem mem_flatMap_fire {rowsOf : Rule → List Row} (hs : allSafe P = true)
    (hb : ∀ r ∈ P, Binds (rowsOf r) (· ∈ patsVars r.premise)) :
    f ∈ P.flatMap (fun r => fire val r (rowsOf r)) ↔ ConseqOf val P (fun r σ => Covers (rowsOf r) σ) f := by
  rw [List.mem_flatMap]
  exact exists_congr fun r => and_congr_right fun hr => mem_fire_iff (safe_of_allSafe hs hr) (hb r hr)

/-! ### naive round -/

theorem binds_solve (G : List Fact) (ps : List Pat) : Binds (solveFrom G ps [[]]) (· ∈ patsVars ps) :=
  fun row hr v hv => binds_nil.solveFrom row hr v (.inr hv)

theorem covers_solve {G : List Fact} {ps : List Pat} {σ : Nat → Nat} :
    Covers (solveFrom G ps [[]]) σ ↔ ∀ p ∈ ps, p.eval σ ∈ G :=
  covers_solveFrom.trans (and_iff_right (covers_nil σ))

theorem solNaive_eq {r : Rule} (hs : r.safe = true) :
    solNaive all r = solveFrom all r.premise [[]] :=
  if_neg fun h => ((Rule.safe_iff r).1 hs).1 (List.isEmpty_iff.1 h)

theorem mem_roundNaive_iff (hs : allSafe P = true) :
    f ∈ roundNaive val P all ↔ f ∉ all ∧ Conseq val P (· ∈ all) f := by
  have hsol : ∀ r ∈ P, solNaive all r = solveFrom all r.premise [[]] :=
    fun r hr => solNaive_eq (safe_of_allSafe hs hr)
  unfold roundNaive
  rw [mem_freshOf, and_comm,
    mem_flatMap_fire hs fun r hr => hsol r hr ▸ binds_solve all r.premise]
  exact and_congr_right fun _ => conseqOf_congr fun r hr σ => hsol r hr ▸ covers_solve

theorem closed_of_roundNaive_nil (hs : allSafe P = true) (h : roundNaive val P S = []) : Closed val P S := fun _ hf =>
  Classical.byContradiction fun hn => List.not_mem_nil (h ▸ (mem_roundNaive_iff hs).2 ⟨hn, hf⟩)

/-! ### the least model -/

theorem derivable_of_conseq (h : ∀ g ∈ all, Derivable val P F g) :
    Conseq val P (· ∈ all) f → Derivable val P F f := by
  rintro ⟨_, hr, σ, hp, hfl, _, hc, rfl⟩
  exact Derivable.step σ hr (fun p hpp => h _ (hp p hpp)) hfl hc

theorem derivable_sub_closed (hF : ∀ f ∈ F, f ∈ S) (hc : Closed val P S) :
    ∀ f, Derivable val P F f → f ∈ S := by
  intro f hf
  induction hf with
  | base h => exact hF _ h
  | step σ hr _ hfl hcc ih => exact hc _ ⟨_, hr, σ, ih, hfl, _, hcc, rfl⟩

theorem derivable_congr {P' : List Rule} {F' : List Fact} (hF : ∀ f, f ∈ F → f ∈ F') (hP : ∀ r, r ∈ P → r ∈ P')
    (h : Derivable val P F f) : Derivable val P' F' f := by
  induction h with
  | base h => exact Derivable.base (hF _ h)
  | step σ hr _ hfl hc ih => exact Derivable.step σ (hP _ hr) ih hfl hc

def Sound (val : Nat → Int) (P : List Rule) (F all : List Fact) : Prop :=
  (∀ f ∈ F, f ∈ all) ∧ ∀ f ∈ all, Derivable val P F f

theorem Sound.refl : Sound val P F F :=
  ⟨fun _ h => h, fun _ h => Derivable.base h⟩

theorem Sound.extend {all' : List Fact} (h : Sound val P F all) (hsub : ∀ f ∈ all, f ∈ all')
    (hnew : ∀ f ∈ all', f ∈ all ∨ Conseq val P (· ∈ all) f) : Sound val P F all' :=
  ⟨fun f hf => hsub f (h.1 f hf), fun f hf => (hnew f hf).elim (h.2 f) (derivable_of_conseq h.2)⟩

theorem Sound.exact (h : Sound val P F S) (hc : Closed val P S) : ∀ f, f ∈ S ↔ Derivable val P F f :=
  fun f => ⟨h.2 f, derivable_sub_closed h.1 hc f⟩

theorem closed_of_exact (h : ∀ f, f ∈ S ↔ Derivable val P F f) : Closed val P S :=
  fun f hf => (h f).2 (derivable_of_conseq (fun g hg => (h g).1 hg) hf)

/-! ### semi-naive round -/

theorem split_at_index {α} {l : List α} {i : Nat} {a : α} (h : l[i]? = some a) :
    l = l.take i ++ a :: l.drop (i + 1) := by
  obtain ⟨hi, rfl⟩ := List.getElem?_eq_some_iff.1 h
  rw [← List.drop_eq_getElem_cons hi, List.take_append_drop]

theorem solSemiAt_some {delta : List Fact} {prems : List Pat} {i : Nat} {p : Pat} (h : prems[i]? = some p) :
    solSemiAt all delta prems i =
      solveFrom all (prems.drop (i + 1)) (solveFrom all (prems.take i) (joinPremise p delta [[]])) := by
  unfold solSemiAt
  rw [h]

theorem solSemiAt_none {delta : List Fact} {prems : List Pat} {i : Nat} (h : prems[i]? = none) :
    solSemiAt all delta prems i = [] := by
  unfold solSemiAt
  rw [h]

theorem covers_solSemiAt {delta : List Fact} {prems : List Pat} {i : Nat} {p : Pat} {σ : Nat → Nat}
    (hd : ∀ f ∈ delta, f ∈ all) (h : prems[i]? = some p) :
    Covers (solSemiAt all delta prems i) σ ↔ p.eval σ ∈ delta ∧ ∀ q ∈ prems, q.eval σ ∈ all := by
  rw [solSemiAt_some h, covers_solveFrom, covers_solveFrom, covers_joinPremise, and_iff_right (covers_nil σ)]
  conv => rhs; rw [split_at_index h, List.forall_mem_append, List.forall_mem_cons]
  exact ⟨fun h' => ⟨h'.1.1, h'.1.2, hd _ h'.1.1, h'.2⟩, fun h' => ⟨⟨h'.1, h'.2.1⟩, h'.2.2.2⟩⟩

theorem covers_solSemi {delta : List Fact} {r : Rule} {σ : Nat → Nat} (hd : ∀ f ∈ delta, f ∈ all) :
    Covers (solSemi all delta r) σ ↔
      (∀ q ∈ r.premise, q.eval σ ∈ all) ∧ ∃ p ∈ r.premise, p.eval σ ∈ delta := by
  unfold solSemi
  rw [covers_flatMap]
  constructor
  · rintro ⟨i, hi, hc⟩
    have h := List.getElem?_eq_getElem (List.mem_range.1 hi)
    obtain ⟨hp, hall⟩ := (covers_solSemiAt hd h).1 hc
    exact ⟨hall, _, List.mem_of_getElem? h, hp⟩
  · rintro ⟨hall, p, hp, hpd⟩
    obtain ⟨i, hi⟩ := List.mem_iff_getElem?.1 hp
    exact ⟨i, List.mem_range.2 (List.getElem?_eq_some_iff.1 hi).1, (covers_solSemiAt hd hi).2 ⟨hpd, hall⟩⟩

theorem binds_solSemi (all delta : List Fact) (r : Rule) :
    Binds (solSemi all delta r) (· ∈ patsVars r.premise) := by
  intro row hrow v hv
  obtain ⟨i, hi, hrow⟩ := List.mem_flatMap.1 hrow
  have h := List.getElem?_eq_getElem (List.mem_range.1 hi)
  rw [solSemiAt_some h] at hrow
  refine binds_nil.joinPremise.solveFrom.solveFrom row hrow v ?_
  rw [split_at_index h] at hv
  simp only [patsVars, List.flatMap_append, List.flatMap_cons, List.mem_append] at hv ⊢
  rcases hv with hv | hv | hv
  · exact .inl (.inr hv)
  · exact .inl (.inl (.inr hv))
  · exact .inr hv

def DeltaConseq (val : Nat → Int) (P : List Rule) (all delta : List Fact) : Fact → Prop :=
  ConseqOf val P fun r σ => (∀ q ∈ r.premise, q.eval σ ∈ all) ∧ ∃ p ∈ r.premise, p.eval σ ∈ delta

theorem DeltaConseq.conseq {delta : List Fact} :
    DeltaConseq val P all delta f → Conseq val P (· ∈ all) f :=
  ConseqOf.mono fun _ _ _ h => h.1

theorem conseq_old_or_delta {old delta : List Fact} (hall : ∀ g ∈ all, g ∈ old ∨ g ∈ delta)
    (hf : Conseq val P (· ∈ all) f) :
    Conseq val P (· ∈ old) f ∨ DeltaConseq val P all delta f := by
  obtain ⟨r, hr, σ, hp, rest⟩ := hf
  by_cases hd : ∃ p ∈ r.premise, p.eval σ ∈ delta
  · exact .inr ⟨r, hr, σ, ⟨hp, hd⟩, rest⟩
  · exact .inl ⟨r, hr, σ, fun p hpp => (hall _ (hp p hpp)).resolve_right fun h => hd ⟨p, hpp, h⟩, rest⟩

theorem mem_roundSemi_delta {start : Nat} (hs : allSafe P = true) :
    f ∈ (roundSemi val P start all).2 ↔ f ∉ all ∧ DeltaConseq val P all (all.drop start) f := by
  show f ∈ freshOf all (P.flatMap fun r => fire val r (solSemi all (all.drop start) r)) ↔ _
  rw [mem_freshOf, and_comm, mem_flatMap_fire hs fun r _ => binds_solSemi all _ r]
  exact and_congr_right fun _ => conseqOf_congr fun r _ σ => covers_solSemi fun _ => List.mem_of_mem_drop

/-- invariant of the semi-naive loop: everything is derivable, and every consequence of the facts *before* the
    delta window is already present -/
def SemiInv (val : Nat → Int) (P : List Rule) (F : List Fact) (start : Nat) (all : List Fact) : Prop :=
  (∀ f ∈ F, f ∈ all) ∧ (∀ f ∈ all, Derivable val P F f) ∧
  (∀ f, Conseq val P (· ∈ all.take start) f → f ∈ all)

theorem semiInv_init (hs : allSafe P = true) : SemiInv val P F 0 F := by
  refine ⟨fun _ h => h, fun _ h => Derivable.base h, ?_⟩
  rintro f ⟨r, hr, σ, hp, _⟩
  -- a safe rule has a premise, and no fact lies before the window
  obtain ⟨p, hpp⟩ := List.exists_mem_of_ne_nil _ ((Rule.safe_iff r).1 (safe_of_allSafe hs hr)).1
  exact nomatch hp p hpp

theorem semiInv_conseq {start : Nat} (hI : SemiInv val P F start all) (hf : Conseq val P (· ∈ all) f) :
    f ∈ all ∨ DeltaConseq val P all (all.drop start) f :=
  (conseq_old_or_delta (old := all.take start)
    (fun g hg => List.mem_append.1 (by rwa [List.take_append_drop])) hf).imp_left (hI.2.2 f)

/-- `blk` is characterised by its members only: the semi-naive and the parallel loop both step this way -/
theorem semiInv_next {start : Nat} {blk : List Fact} (hI : SemiInv val P F start all)
    (hblk : ∀ f, f ∈ blk ↔ f ∉ all ∧ DeltaConseq val P all (all.drop start) f) :
    SemiInv val P F all.length (all ++ blk) := by
  have hs : Sound val P F (all ++ blk) := Sound.extend ⟨hI.1, hI.2.1⟩ (fun _ => List.mem_append_left _)
    fun f hf => (List.mem_append.1 hf).imp_right fun h => ((hblk f).1 h).2.conseq
  refine ⟨hs.1, hs.2, fun f hf => ?_⟩
  rw [List.take_left' rfl] at hf
  by_cases hin : f ∈ all
  · exact List.mem_append_left _ hin
  · exact List.mem_append_right _ ((hblk f).2 ⟨hin, (semiInv_conseq hI hf).resolve_left hin⟩)

theorem semiInv_step {start : Nat} {blk : List Fact} (hs : allSafe P = true) (hI : SemiInv val P F start all)
    (hblk : ∀ f, f ∈ blk ↔ f ∈ freshOf all (roundSemi val P start all).2) :
    SemiInv val P F (roundSemi val P start all).1 (all ++ blk) :=
  semiInv_next hI fun f => by rw [hblk, mem_freshOf, mem_roundSemi_delta hs]; exact and_iff_left_of_imp And.left

theorem mem_roundSemi_iff {start : Nat} (hs : allSafe P = true) (hI : SemiInv val P F start all) :
    f ∈ (roundSemi val P start all).2 ↔ f ∉ all ∧ Conseq val P (· ∈ all) f := by
  rw [mem_roundSemi_delta hs]
  exact and_congr_right fun hn => ⟨DeltaConseq.conseq, fun h => (semiInv_conseq hI h).resolve_left hn⟩

/-! ### the fixpoint driver -/

section Driver
variable {σ : Type} {round : σ → List Fact → σ × List Fact}

theorem drive_succ {σ : Type} (round : σ → List Fact → σ × List Fact) (n : Nat) (st : σ) (all : List Fact) :
    drive round (n + 1) st all =
      if (round st all).2 = [] then some all
      else drive round n (round st all).1 (all ++ freshOf all (round st all).2) := by
  simp only [drive, List.isEmpty_iff]

/-- The driver loop as a relation: after a non-empty round *any* block with the same members as the new facts
    (any iteration order of the `HashSet`, duplicates allowed) may be appended. `drive` is one such run. -/
inductive Run {σ : Type} (round : σ → List Fact → σ × List Fact) : σ → List Fact → List Fact → Prop
  | stop {st : σ} {all : List Fact} : (round st all).2 = [] → Run round st all all
  | step {st : σ} {all blk S : List Fact} : (round st all).2 ≠ [] →
      (∀ f, f ∈ blk ↔ f ∈ freshOf all (round st all).2) →
      Run round (round st all).1 (all ++ blk) S → Run round st all S

theorem run_of_drive {fuel : Nat} {st : σ} (h : drive round fuel st all = some S) : Run round st all S := by
  induction fuel generalizing st all with
  | zero => cases h
  | succ n ih =>
    rw [drive_succ] at h
    by_cases he : (round st all).2 = []
    · rw [if_pos he] at h; cases h; exact Run.stop he
    · rw [if_neg he] at h; exact Run.step he (fun _ => Iff.rfl) (ih h)

theorem run_exit (I : σ → List Fact → Prop)
    (hstep : ∀ st all blk, I st all → (round st all).2 ≠ [] →
      (∀ f, f ∈ blk ↔ f ∈ freshOf all (round st all).2) → I (round st all).1 (all ++ blk))
    {st : σ} (h : Run round st all S) (hI : I st all) : ∃ st', I st' S ∧ (round st' S).2 = [] := by
  induction h with
  | stop hnil => exact ⟨_, hI, hnil⟩
  | step hne hblk _ ih => exact ih (hstep _ _ _ hI hne hblk)

theorem drive_of_round_nil {st : σ} (h : (round st S).2 = []) (n : Nat) :
    drive round (n + 1) st S = some S := by
  rw [drive_succ, if_pos h]

theorem drive_mono {fuel : Nat} {st : σ} (h : drive round fuel st all = some S) (m : Nat) :
    drive round (fuel + m) st all = some S := by
  induction fuel generalizing st all with
  | zero => cases h
  | succ n ih =>
    rw [Nat.succ_add, drive_succ]
    rw [drive_succ] at h
    by_cases he : (round st all).2 = []
    · rw [if_pos he] at h ⊢; exact h
    · rw [if_neg he] at h ⊢; exact ih h

/-- `k` rounds of the driver loop, no exit test -/
def iter {σ : Type} (round : σ → List Fact → σ × List Fact) : Nat → σ → List Fact → σ × List Fact
  | 0, st, all => (st, all)
  | k + 1, st, all => iter round k (round st all).1 (all ++ freshOf all (round st all).2)

def naiveRound (val : Nat → Int) (P : List Rule) : Unit → List Fact → Unit × List Fact :=
  fun _ all => ((), roundNaive val P all)

def iterNaive (val : Nat → Int) (P : List Rule) (k : Nat) (F : List Fact) : List Fact :=
  (iter (naiveRound val P) k () F).2

def iterSemi (val : Nat → Int) (P : List Rule) (k : Nat) (F : List Fact) : List Fact :=
  (iter (roundSemi val P) k 0 F).2

theorem drive_iter {fuel : Nat} {st : σ} (h : drive round fuel st all = some S) :
    ∃ k, k < fuel ∧ (iter round k st all).2 = S ∧ (round (iter round k st all).1 S).2 = [] := by
  induction fuel generalizing st all with
  | zero => cases h
  | succ n ih =>
    rw [drive_succ] at h
    by_cases he : (round st all).2 = []
    · rw [if_pos he] at h; cases h; exact ⟨0, Nat.succ_pos n, rfl, he⟩
    · rw [if_neg he] at h
      obtain ⟨k, hk, h1, h2⟩ := ih h
      exact ⟨k + 1, Nat.succ_lt_succ hk, h1, h2⟩

/-- a round that does not end the loop adds a fact, and every reachable store has at most `bound` of them -/
theorem drive_terminates (I : σ → List Fact → Prop) (bound : Nat)
    (hstep : ∀ st all, I st all → (round st all).2 ≠ [] →
      I (round st all).1 (all ++ freshOf all (round st all).2))
    (hfresh : ∀ st all, ∀ f ∈ (round st all).2, f ∉ all)
    (hbound : ∀ st all, I st all → all.length ≤ bound) :
    ∀ (fuel : Nat) (st : σ) (all : List Fact), I st all → bound < all.length + fuel →
      ∃ S, drive round fuel st all = some S := by
  intro fuel
  induction fuel with
  | zero => exact fun st all hI h => absurd (hbound st all hI) (Nat.not_le.2 h)
  | succ n ih =>
    intro st all hI hlt
    rw [drive_succ]
    by_cases he : (round st all).2 = []
    · rw [if_pos he]; exact ⟨all, rfl⟩
    · rw [if_neg he]
      apply ih _ _ (hstep st all hI he)
      obtain ⟨x, hx⟩ := List.exists_mem_of_ne_nil _ he
      have hpos := List.length_pos_of_mem (mem_freshOf.2 ⟨hx, hfresh st all x hx⟩)
      rw [List.length_append, Nat.add_assoc]
      exact Nat.lt_of_lt_of_le hlt (Nat.add_le_add_left (Nat.lt_add_of_pos_left hpos) _)

/-! ### rounds that only add new immediate consequences -/

def SoundRound {σ : Type} (val : Nat → Int) (P : List Rule) (round : σ → List Fact → σ × List Fact) : Prop :=
  ∀ st all, ∀ f ∈ (round st all).2, f ∉ all ∧ Conseq val P (· ∈ all) f

theorem soundRound_naive (hs : allSafe P = true) : SoundRound val P (naiveRound val P) :=
  fun _ _ _ hf => (mem_roundNaive_iff hs).1 hf

theorem soundRound_semi (hs : allSafe P = true) : SoundRound val P (roundSemi val P) :=
  fun _ _ _ hf => ((mem_roundSemi_delta hs).1 hf).imp_right DeltaConseq.conseq

theorem SoundRound.step (hS : SoundRound val P round) {blk : List Fact} {st : σ} (h : Sound val P F all)
    (hblk : ∀ f, f ∈ blk ↔ f ∈ freshOf all (round st all).2) : Sound val P F (all ++ blk) :=
  h.extend (fun _ => List.mem_append_left _) fun f hf =>
    (List.mem_append.1 hf).imp_right fun hb => (hS st all f (mem_freshOf.1 ((hblk f).1 hb)).1).2

theorem SoundRound.nil_of_closed (hS : SoundRound val P round) (hc : Closed val P S) (st : σ) :
    (round st S).2 = [] :=
  List.eq_nil_iff_forall_not_mem.2 fun f hf => (hS st S f hf).1 (hc f (hS st S f hf).2)

theorem iter_sound_of (hS : SoundRound val P round) (k : Nat) :
    ∀ (st : σ) (a : List Fact), Sound val P F a → Sound val P F (iter round k st a).2 := by
  induction k with
  | zero => exact fun _ _ h => h
  | succ k ih => exact fun st a h => ih _ _ (hS.step h fun _ => Iff.rfl)

end Driver

/-! ### exactness at the end of a run, any drain order -/

theorem run_naive_exact (hs : allSafe P = true)
    (h : Run (naiveRound val P) () F S) : ∀ f, f ∈ S ↔ Derivable val P F f := by
  obtain ⟨_, hd, hnil⟩ := run_exit (fun _ all => Sound val P F all)
    (fun _ _ _ hI _ hblk => (soundRound_naive hs).step hI hblk) h Sound.refl
  exact hd.exact (closed_of_roundNaive_nil hs hnil)

theorem run_semi_exact (hs : allSafe P = true)
    (h : Run (roundSemi val P) 0 F S) : ∀ f, f ∈ S ↔ Derivable val P F f := by
  obtain ⟨st, hI, hnil⟩ := run_exit (SemiInv val P F) (fun _ _ _ hI _ hblk => semiInv_step hs hI hblk)
    h (semiInv_init hs)
  exact Sound.exact ⟨hI.1, hI.2.1⟩ fun f hf =>
    Classical.byContradiction fun hn => List.not_mem_nil (hnil ▸ (mem_roundSemi_iff hs hI).2 ⟨hn, hf⟩)

/-! ### semi-naive = naive, round by round -/

theorem iter_semi_naive (hs : allSafe P = true) (k : Nat) :
    ∀ (st : Nat) (a a' : List Fact), SemiInv val P F st a → (∀ f, f ∈ a ↔ f ∈ a') →
      ∀ f, f ∈ (iter (roundSemi val P) k st a).2 ↔ f ∈ (iter (naiveRound val P) k () a').2 := by
  induction k with
  | zero => exact fun _ _ _ _ h => h
  | succ k ih =>
    intro st a a' hI h
    refine ih _ _ _ (semiInv_step hs hI fun _ => Iff.rfl) fun f => ?_
    rw [mem_append_freshOf, mem_append_freshOf, mem_roundSemi_iff hs hI]
    exact or_congr (h f) ((and_congr (not_congr (h f)) (conseq_congr h)).trans (mem_roundNaive_iff hs).symm)

/-! ### negation: one stratum -/

def ConseqN (val : Nat → Int) (P : List Rule) (S L : Fact → Prop) : Fact → Prop :=
  ConseqOf val P fun r σ => (∀ p ∈ r.premise, S (p.eval σ)) ∧ ∀ n ∈ r.negative, ¬ L (n.eval σ)

theorem Term.resolve_eq {t : Term} {row : Row} {σ : Nat → Nat}
    (hb : ∀ v ∈ t.vars, Bound row v) (hσ : Agrees σ row) : t.resolve row = some (t.eval σ) := by
  cases t with
  | const c => rfl
  | var v =>
    obtain ⟨x, hx⟩ := hb v (List.mem_singleton.2 rfl)
    rw [Term.resolve, Term.eval, hx, hσ v x hx]

theorem Pat.resolve_eq {p : Pat} {row : Row} {σ : Nat → Nat}
    (hb : ∀ v ∈ p.vars, Bound row v) (hσ : Agrees σ row) : p.resolve row = some (p.eval σ) := by
  obtain ⟨h1, h2, h3⟩ := Pat.forall_mem_vars.1 hb
  unfold Pat.resolve
  rw [Term.resolve_eq h1 hσ, Term.resolve_eq h2 hσ, Term.resolve_eq h3 hσ]
  rfl

theorem negOk_iff {low : List Fact} {row : Row} {σ : Nat → Nat} {n : Pat}
    (hb : ∀ v ∈ n.vars, Bound row v) (hσ : Agrees σ row) : negOk low row n = true ↔ n.eval σ ∉ low := by
  simp [negOk, Pat.resolve_eq hb hσ]

theorem covers_negFilter {low : List Fact} {rows : List Row} {negs : List Pat} {V : Nat → Prop} {σ : Nat → Nat}
    (hb : Binds rows V) (hv : ∀ v ∈ patsVars negs, V v) :
    Covers (rows.filter fun row => negs.all (negOk low row)) σ ↔
      Covers rows σ ∧ ∀ n ∈ negs, n.eval σ ∉ low := by
  have key : ∀ row ∈ rows, Agrees σ row → ∀ n ∈ negs, (negOk low row n = true ↔ n.eval σ ∉ low) :=
    fun row hrow hσ n hn => negOk_iff (fun v hvn => hb row hrow v (hv v (mem_patsVars.2 ⟨n, hn, hvn⟩))) hσ
  simp only [Covers, List.mem_filter, List.all_eq_true]
  constructor
  · rintro ⟨row, ⟨hrow, hneg⟩, hσ⟩
    exact ⟨⟨row, hrow, hσ⟩, fun n hn => (key row hrow hσ n hn).1 (hneg n hn)⟩
  · rintro ⟨⟨row, hrow, hσ⟩, hneg⟩
    exact ⟨row, ⟨hrow, fun n hn => (key row hrow hσ n hn).2 (hneg n hn)⟩, hσ⟩

theorem mem_tpStep_iff {low : List Fact} (hs : allSafe P = true) :
    f ∈ tpStep val low P S ↔ ConseqN val P (· ∈ S) (· ∈ low) f := by
  unfold tpStep
  rw [mem_flatMap_fire hs fun r _ row hr => binds_solve S r.premise row (List.mem_filter.1 hr).1]
  exact conseqOf_congr fun r hr σ => by
    rw [covers_negFilter (binds_solve S r.premise) ((Rule.safe_iff r).1 (safe_of_allSafe hs hr)).2.2.2, covers_solve]

theorem mem_negPass_iff {N : List Rule} (hs : allSafe N = true) :
    f ∈ negPass val N all ↔ f ∉ all ∧ ConseqN val N (· ∈ all) (· ∈ all) f := by
  rw [show negPass val N all = freshOf all (tpStep val all N all) from rfl, mem_freshOf, mem_tpStep_iff hs, and_comm]

theorem mem_append_negPass {N : List Rule} (hs : allSafe N = true) :
    f ∈ all ++ negPass val N all ↔ f ∈ all ∨ ConseqN val N (· ∈ all) (· ∈ all) f :=
  mem_append_freshOf.trans (or_congr_right (mem_tpStep_iff hs))

theorem lfpFrom_succ (val : Nat → Int) (low : List Fact) (P : List Rule) (n : Nat) (S : List Fact) :
    lfpFrom val low P (n + 1) S =
      if freshOf S (tpStep val low P S) = [] then some S
      else lfpFrom val low P n (S ++ freshOf S (tpStep val low P S)) := by
  simp only [lfpFrom, List.isEmpty_iff]

theorem lfpFrom_exit {low : List Fact} (I : List Fact → Prop)
    (hstep : ∀ S, I S → I (S ++ freshOf S (tpStep val low P S)))
    {fuel : Nat} {S0 : List Fact} (h : lfpFrom val low P fuel S0 = some S) (hI : I S0) :
    I S ∧ ∀ f ∈ tpStep val low P S, f ∈ S := by
  induction fuel generalizing S0 with
  | zero => cases h
  | succ n ih =>
    rw [lfpFrom_succ] at h
    by_cases he : freshOf S0 (tpStep val low P S0) = []
    · rw [if_pos he] at h; cases h; exact ⟨hI, freshOf_eq_nil.1 he⟩
    · rw [if_neg he] at h; exact ih h (hstep S0 hI)

theorem mem_posRules {r : Rule} : r ∈ posRules P ↔ r ∈ P ∧ r.negative = [] := by
  simp [posRules, List.mem_filter]

theorem mem_negRules {r : Rule} : r ∈ negRules P ↔ r ∈ P ∧ r.negative ≠ [] := by
  simp [negRules, List.mem_filter]

theorem allSafe_posRules (hs : allSafe P = true) : allSafe (posRules P) = true :=
  allSafe_of_subset (fun _ hr => (mem_posRules.1 hr).1) hs

theorem allSafe_negRules (hs : allSafe P = true) : allSafe (negRules P) = true :=
  allSafe_of_subset (fun _ hr => (mem_negRules.1 hr).1) hs

theorem conseqN_pos {S L : Fact → Prop} :
    ConseqN val (posRules P) S L f ↔ Conseq val (posRules P) S f :=
  conseqOf_congr fun r hr σ => by rw [(mem_posRules.1 hr).2]; exact and_iff_left fun _ h => nomatch h

theorem lfpFrom_pos_exact {fuel : Nat} {M : List Fact} (hs : allSafe P = true)
    (h : lfpFrom val [] (posRules P) fuel F = some M) : ∀ f, f ∈ M ↔ Derivable val (posRules P) F f := by
  have hsp := allSafe_posRules hs
  obtain ⟨hd, hnil⟩ := lfpFrom_exit (Sound val (posRules P) F)
    (fun S hS => hS.extend (fun _ => List.mem_append_left _) fun f hf =>
      (mem_append_freshOf.1 hf).imp_right fun h => conseqN_pos.1 ((mem_tpStep_iff hsp).1 h))
    h Sound.refl
  exact hd.exact fun g hg => hnil g ((mem_tpStep_iff hsp).2 (conseqN_pos.2 hg))

theorem specModel_exact {fuel : Nat} (hs : allSafe P = true)
    (h : specModel val P fuel F = some S) : ∀ f, f ∈ S ↔ Strat val P F f := by
  obtain ⟨m0, hm0, h2⟩ := Option.bind_eq_some_iff.1 h
  have hlow := lfpFrom_pos_exact hs hm0
  obtain ⟨⟨i1, i2⟩, i3⟩ := lfpFrom_exit (fun S => (∀ f ∈ m0, f ∈ S) ∧ ∀ f ∈ S, Strat val P F f)
    (fun S hS => ⟨fun f hf => List.mem_append_left _ (hS.1 f hf), fun f hf =>
      (mem_append_freshOf.1 hf).elim (hS.2 f) fun hf => by
        obtain ⟨r, hr, σ, ⟨hp, hn⟩, hfl, c, hc, rfl⟩ := (mem_tpStep_iff hs).1 hf
        exact Strat.step σ hr (fun p hp' => hS.2 _ (hp p hp')) (fun n hn' hd => hn n hn' ((hlow _).2 hd)) hfl hc⟩)
    h2 ⟨fun _ hf => hf, fun f hf => Strat.low ((hlow f).1 hf)⟩
  refine fun f => ⟨i2 f, fun hf => ?_⟩
  induction hf with
  | low hd => exact i1 _ ((hlow _).2 hd)
  | step σ hr _ hn hfl hc ih =>
    exact i3 _ ((mem_tpStep_iff hs).2
      ⟨_, hr, σ, ⟨ih, fun n hn' hm => hn n hn' ((hlow _).1 hm)⟩, hfl, _, hc, rfl⟩)

theorem strat_iff_derivable (h : ∀ r ∈ P, r.negative = []) (f : Fact) :
    Strat val P F f ↔ Derivable val P F f := by
  have e : posRules P = P := List.filter_eq_self.2 fun r hr => by rw [h r hr]; rfl
  constructor
  · intro hf
    induction hf with
    | low hd => exact e ▸ hd
    | step σ hr _ _ hfl hc ih => exact Derivable.step σ hr ih hfl hc
  · exact fun hf => Strat.low (e.symm ▸ hf)

/-- A store that is exactly the stratified model is closed under the rules with negation judged against the store
    itself: an atom it lacks, the lower stratum lacks. -/
theorem strat_closed_of_exact (h : ∀ f, f ∈ S ↔ Strat val P F f) {r : Rule} {c : Pat} {σ : Nat → Nat} (hr : r ∈ P)
    (hp : ∀ p ∈ r.premise, p.eval σ ∈ S) (hn : ∀ n ∈ r.negative, n.eval σ ∉ S)
    (hfl : FiltersHold val σ r.filters) (hc : c ∈ r.conclusion) : c.eval σ ∈ S :=
  (h _).2 (Strat.step σ hr (fun p hpp => (h _).1 (hp p hpp)) (fun n hnn hd => hn n hnn ((h _).2 (Strat.low hd))) hfl hc)

/-! ### the provenance driver (Boolean, no seeds) -/

theorem termClash_ne {a b : Term} (h : termClash a b = true) (σ σ' : Nat → Nat) : a.eval σ ≠ b.eval σ' := by
  cases a <;> cases b <;> simp_all [termClash, Term.eval]

theorem patClash_ne {a b : Pat} (h : patClash a b = true) (σ σ' : Nat → Nat) : a.eval σ ≠ b.eval σ' := by
  simp only [patClash, Bool.or_eq_true] at h
  intro e
  simp only [Pat.eval, Fact.mk.injEq] at e
  rcases h with (h | h) | h
  · exact termClash_ne h σ σ' e.1
  · exact termClash_ne h σ σ' e.2.1
  · exact termClash_ne h σ σ' e.2.2

/-- a head of a NOT-rule is no premise instance of any rule -/
theorem negHead_ne_premise (hiso : negHeadsFeedNoPremise P = true) {r : Rule}
    {p : Pat} {σ : Nat → Nat} (hr : r ∈ P) (hp : p ∈ r.premise) {C : Rule → (Nat → Nat) → Prop} :
    ¬ ConseqOf val (negRules P) C (p.eval σ) := by
  rintro ⟨r', hr', σ', _, _, c', hc', e⟩
  simp only [negHeadsFeedNoPremise, List.all_eq_true] at hiso
  exact patClash_ne (hiso r' hr' c' hc' r hr p hp) σ' σ e.symm

theorem provModel_eq {fuel : Nat} :
    provModel val P fuel F = (inferSemi val (posRules P) fuel F).map fun m0 => m0 ++ negPass val (negRules P) m0 := by
  refine congrArg (fun g => Option.map g _) (funext fun m0 => ?_)
  show (if (negRules P).isEmpty = true then m0 else m0 ++ negPass val (negRules P) m0) = _
  by_cases he : (negRules P).isEmpty = true
  · rw [if_pos he, List.isEmpty_iff.1 he]; exact (List.append_nil m0).symm
  · rw [if_neg he]

/-! ### termination -/

def InU (k : Nat) (f : Fact) : Prop := f.s < k ∧ f.p < k ∧ f.o < k

def termBound (k : Nat) : Term → Prop
  | .const c => c < k
  | .var _ => True

def ConclBound (k : Nat) (P : List Rule) : Prop :=
  ∀ r ∈ P, ∀ c ∈ r.conclusion, termBound k c.s ∧ termBound k c.p ∧ termBound k c.o

def cube (k : Nat) : List Fact :=
  (List.range k).flatMap fun a => (List.range k).flatMap fun b => (List.range k).map fun c => ⟨a, b, c⟩

theorem mem_cube {k : Nat} : f ∈ cube k ↔ InU k f := by
  cases f with
  | mk a b c =>
    simp only [cube, List.mem_flatMap, List.mem_map, List.mem_range, Fact.mk.injEq, InU]
    constructor
    · rintro ⟨x, hx, y, hy, z, hz, rfl, rfl, rfl⟩; exact ⟨hx, hy, hz⟩
    · rintro ⟨hx, hy, hz⟩; exact ⟨a, hx, b, hy, c, hz, rfl, rfl, rfl⟩

theorem length_cube (k : Nat) : (cube k).length = k ^ 3 := by
  simp only [cube, List.length_flatMap, List.length_map, List.length_range, List.map_const', List.sum_replicate_nat]
  rw [Nat.pow_succ, Nat.pow_two, Nat.mul_assoc]

theorem Term.lt_of_eval_lt {k : Nat} {t : Term} {σ : Nat → Nat} {v : Nat} (hv : v ∈ t.vars) (h : t.eval σ < k) :
    σ v < k := by
  cases t with
  | const c => cases hv
  | var w => rw [List.mem_singleton.1 hv]; exact h

theorem Pat.lt_of_eval_inU {k : Nat} {p : Pat} {σ : Nat → Nat} {v : Nat} (hv : v ∈ p.vars) (h : InU k (p.eval σ)) :
    σ v < k := by
  simp only [Pat.vars, List.mem_append] at hv
  rcases hv with (hv | hv) | hv
  · exact Term.lt_of_eval_lt hv h.1
  · exact Term.lt_of_eval_lt hv h.2.1
  · exact Term.lt_of_eval_lt hv h.2.2

theorem Term.eval_lt {k : Nat} {t : Term} {σ : Nat → Nat} (hb : termBound k t) (hv : ∀ v ∈ t.vars, σ v < k) :
    t.eval σ < k := by
  cases t with
  | const c => exact hb
  | var v => exact hv v (List.mem_singleton.2 rfl)

/-- a head variable of a safe rule occurs in a premise, whose instance is below `k` by induction -/
theorem derivable_inU {k : Nat} (hs : allSafe P = true)
    (hF : ∀ f ∈ F, InU k f) (hC : ConclBound k P) (h : Derivable val P F f) : InU k f := by
  induction h with
  | base h => exact hF _ h
  | @step r c σ hr _ _ hc ih =>
    obtain ⟨_, hcv, _, _⟩ := (Rule.safe_iff r).1 (safe_of_allSafe hs hr)
    have hσ : ∀ v ∈ c.vars, σ v < k := by
      intro v hv
      obtain ⟨p, hp, hvp⟩ := mem_patsVars.1 (hcv v (mem_patsVars.2 ⟨c, hc, hv⟩))
      exact Pat.lt_of_eval_inU hvp (ih p hp)
    obtain ⟨h1, h2, h3⟩ := Pat.forall_mem_vars.1 hσ
    obtain ⟨b1, b2, b3⟩ := hC r hr c hc
    exact ⟨Term.eval_lt b1 h1, Term.eval_lt b2 h2, Term.eval_lt b3 h3⟩

theorem length_le_of_derivable {k : Nat} (hs : allSafe P = true)
    (hF : ∀ f ∈ F, InU k f) (hC : ConclBound k P) (hn : all.Nodup)
    (hd : ∀ f ∈ all, Derivable val P F f) : all.length ≤ k ^ 3 :=
  length_cube k ▸ hn.length_le_of_subset fun f hf => mem_cube.2 (derivable_inU hs hF hC (hd f hf))

/-- the store of a sound round stays a duplicate-free list of derivable facts, of which there are at most `k³` -/
theorem drive_terminates_of_sound {σ : Type} {round : σ → List Fact → σ × List Fact}
    (hS : SoundRound val P round) {k : Nat} (hs : allSafe P = true) (hF : ∀ f ∈ F, InU k f)
    (hC : ConclBound k P) (hn : F.Nodup) (fuel : Nat) (hfuel : k ^ 3 < fuel) (st : σ) :
    ∃ S, drive round fuel st F = some S :=
  drive_terminates (fun _ all => all.Nodup ∧ Sound val P F all) (k ^ 3)
    (fun _ _ h _ => ⟨nodup_append_freshOf _ h.1, hS.step h.2 fun _ => Iff.rfl⟩)
    (fun st all f hf => (hS st all f hf).1)
    (fun _ _ h => length_le_of_derivable hs hF hC h.1 h.2.2)
    fuel st F ⟨hn, Sound.refl⟩ (Nat.lt_add_left _ hfuel)

theorem provModel_terminates {k : Nat} (hs : allSafe P = true)
    (hF : ∀ f ∈ F, InU k f) (hC : ConclBound k P) (hn : F.Nodup) (fuel : Nat) (hfuel : k ^ 3 < fuel) :
    ∃ S, provModel val P fuel F = some S := by
  have hsp := allSafe_posRules hs
  obtain ⟨m0, h⟩ := drive_terminates_of_sound (soundRound_semi hsp) hsp hF
    (fun r hr => hC r (mem_posRules.1 hr).1) hn fuel hfuel 0
  exact ⟨_, by rw [provModel_eq, show inferSemi val (posRules P) fuel F = some m0 from h]; rfl⟩

/-! ### the parallel strategy inside its fragment -/

theorem Rule.parOk_iff (r : Rule) : r.parOk = true ↔
    r.premise.length ∈ Extracted.parallelArities ∧ (∀ p ∈ r.premise, ∃ c, p.p = Term.const c) ∧
    r.filters = [] ∧ r.negative = [] := by
  simp only [Rule.parOk, Bool.and_eq_true, decide_eq_true_eq, List.all_eq_true, List.isEmpty_iff, and_assoc]
  refine and_congr_right fun _ => and_congr_left' (forall_congr' fun p => forall_congr' fun _ => ?_)
  cases p.p <;> simp

theorem candidate_of_eval {r : Rule} {p : Pat} {σ : Nat → Nat} (hp : p ∈ r.premise)
    (hc : ∃ c, p.p = Term.const c) : candidate r (p.eval σ) = true := by
  obtain ⟨c, hc⟩ := hc
  exact List.any_eq_true.2 ⟨p, hp, by simp [hc, Pat.eval, Term.eval]⟩

theorem mem_fire_nofilter {r : Rule} {rows : List Row} (hfl : r.filters = []) :
    f ∈ fire val r rows ↔ ∃ row ∈ rows, f ∈ concl r row := by
  simp only [mem_fire, hfl, filtersOk, List.all_nil, true_and]

theorem solSemi_one {delta : List Fact} {r : Rule} {p0 : Pat} (hp : r.premise = [p0]) :
    solSemi all delta r = joinPremise p0 delta [[]] := by
  unfold solSemi
  rw [hp, show List.range [p0].length = [0] from rfl, List.flatMap_cons, List.flatMap_nil, List.append_nil,
    solSemiAt_some (List.getElem?_cons_zero ..)]
  rfl

theorem solSemi_two {delta : List Fact} {r : Rule} {p0 p1 : Pat} (hp : r.premise = [p0, p1]) :
    solSemi all delta r =
      joinPremise p1 all (joinPremise p0 delta [[]]) ++ joinPremise p0 all (joinPremise p1 delta [[]]) := by
  unfold solSemi
  rw [hp, show List.range [p0, p1].length = [0, 1] from rfl, List.flatMap_cons, List.flatMap_cons,
    List.flatMap_nil, List.append_nil, solSemiAt_some (List.getElem?_cons_zero ..),
    solSemiAt_some (rfl : [p0, p1][1]? = some p1)]
  rfl

/-- one arm of the two-premise case: `p` matched by the delta triple, then `q` by any fact -/
theorem mem_parJoin {t : Fact} {p q : Pat} {g : Row → List Fact} :
    (f ∈ (matchPat p t []).toList.flatMap fun b1 => all.flatMap fun t2 => (matchPat q t2 b1).toList.flatMap g) ↔
      ∃ row ∈ joinPremise q all (joinPremise p [t] [[]]), f ∈ g row := by
  simp only [mem_joinPremise, List.mem_flatMap, Option.mem_toList, List.mem_singleton, exists_eq_left]
  constructor
  · rintro ⟨b, hb, t2, ht2, row, hrow, hf⟩
    exact ⟨row, ⟨t2, ht2, b, hb, hrow⟩, hf⟩
  · rintro ⟨row, ⟨t2, ht2, b, hb, hrow⟩, hf⟩
    exact ⟨b, hb, t2, ht2, row, hrow, hf⟩

/-- Inside its fragment the parallel strategy fires a rule on a delta triple `t` exactly as a semi-naive round
    with the one-fact delta `[t]` does. -/
theorem mem_parFireRule_iff {t : Fact} {r : Rule} (hok : r.parOk = true) :
    f ∈ parFireRule all t r ↔ f ∈ fire val r (solSemi all [t] r) := by
  obtain ⟨hlen, _, hfl, _⟩ := (Rule.parOk_iff r).1 hok
  have har : Extracted.parallelArities = [1, 2] := rfl
  rw [mem_fire_nofilter hfl]
  unfold parFireRule
  rw [har] at hlen ⊢
  cases hp : r.premise with
  | nil => rw [hp] at hlen; exact absurd hlen (by decide)
  | cons p0 l =>
    cases l with
    | nil =>
      dsimp only
      rw [solSemi_one hp, if_pos (List.mem_cons_self ..)]
      simp only [mem_joinPremise, List.mem_flatMap, Option.mem_toList, List.mem_singleton, exists_eq_left]
    | cons p1 l =>
      cases l with
      | nil =>
        dsimp only
        rw [solSemi_two hp, if_pos (List.mem_cons_of_mem _ (List.mem_cons_self ..)), List.mem_append, mem_parJoin,
          mem_parJoin]
        simp only [List.mem_append, or_and_right, exists_or]
      | cons _ _ => rw [hp] at hlen; exact absurd hlen (by simp)

theorem mem_parRound_iff {delta : List Fact} (hs : allSafe P = true) (hok : allParOk P = true)
    (hd : ∀ t ∈ delta, t ∈ all) :
    f ∈ parRound P all delta ↔ f ∉ all ∧ DeltaConseq val P all delta f := by
  have key : ∀ r ∈ P, ∀ t ∈ all, ∀ g, g ∈ parFireRule all t r ↔ ∃ σ : Nat → Nat,
      ((∀ q ∈ r.premise, q.eval σ ∈ all) ∧ ∃ p ∈ r.premise, p.eval σ = t) ∧
      FiltersHold val σ r.filters ∧ ∃ c ∈ r.conclusion, g = c.eval σ := fun r hr t ht g => by
    rw [mem_parFireRule_iff (val := val) (List.all_eq_true.1 hok r hr),
      mem_fire_iff (safe_of_allSafe hs hr) (binds_solSemi all [t] r)]
    simp only [covers_solSemi fun g (h : g ∈ [t]) => List.mem_singleton.1 h ▸ ht, List.mem_singleton]
  unfold parRound
  rw [mem_freshOf, and_comm]
  refine and_congr_right fun _ => ?_
  simp only [List.mem_flatMap, List.mem_filter]
  constructor
  · rintro ⟨t, ht, r, ⟨hr, _⟩, hf⟩
    obtain ⟨σ, ⟨hall, p, hp, rfl⟩, rest⟩ := (key r hr t (hd t ht) f).1 hf
    exact ⟨r, hr, σ, ⟨hall, p, hp, ht⟩, rest⟩
  · rintro ⟨r, hr, σ, ⟨hall, p, hp, hpd⟩, rest⟩
    exact ⟨p.eval σ, hpd, r,
      ⟨hr, candidate_of_eval hp (((Rule.parOk_iff r).1 (List.all_eq_true.1 hok r hr)).2.1 p hp)⟩,
      (key r hr _ (hd _ hpd) f).2 ⟨σ, ⟨hall, p, hp, rfl⟩, rest⟩⟩

theorem parRound_nil_of_closed {delta : List Fact} (hs : allSafe P = true)
    (hok : allParOk P = true) (hc : Closed val P S) (hd : ∀ t ∈ delta, t ∈ S) : parRound P S delta = [] :=
  List.eq_nil_iff_forall_not_mem.2 fun f hf =>
    have h := (mem_parRound_iff (val := val) hs hok hd).1 hf
    h.1 (hc f h.2.conseq)

theorem mem_append_parRound {P : List Rule} {all delta : List Fact} {f : Fact} :
    f ∈ all ++ parRound P all delta ↔ f ∈ all ∨ f ∈ parRound P all delta := List.mem_append

theorem parDrive_succ (P : List Rule) (n : Nat) (all delta : List Fact) :
    parDrive P (n + 1) all delta =
      if parRound P all delta = [] then some all
      else parDrive P n (all ++ parRound P all delta) (parRound P all delta) := by
  simp only [parDrive, List.isEmpty_iff]

/-- the parallel loop keeps the semi-naive invariant, its delta being the window `all.drop start` -/
theorem parDrive_exit (hs : allSafe P = true) (hok : allParOk P = true)
    {fuel start : Nat} {delta : List Fact} (h : parDrive P fuel all delta = some S)
    (hI : SemiInv val P F start all) (hd : delta = all.drop start) :
    ∃ start', SemiInv val P F start' S ∧ parRound P S (S.drop start') = [] := by
  induction fuel generalizing all delta start with
  | zero => cases h
  | succ n ih =>
    subst hd
    rw [parDrive_succ] at h
    by_cases he : parRound P all (all.drop start) = []
    · rw [if_pos he] at h; cases h; exact ⟨start, hI, he⟩
    · rw [if_neg he] at h
      exact ih h (semiInv_next hI fun f => mem_parRound_iff hs hok fun _ => List.mem_of_mem_drop)
        (List.drop_left' rfl).symm

theorem inferPar_exact {fuel : Nat} (hs : allSafe P = true)
    (hok : allParOk P = true) (h : inferPar P fuel F = some S) : ∀ f, f ∈ S ↔ Derivable val P F f := by
  obtain ⟨start, hI, hnil⟩ := parDrive_exit hs hok h (semiInv_init hs) rfl
  exact Sound.exact ⟨hI.1, hI.2.1⟩ fun f hf => Classical.byContradiction fun hn => List.not_mem_nil
    (hnil ▸ (mem_parRound_iff hs hok fun _ => List.mem_of_mem_drop).2 ⟨hn, (semiInv_conseq hI hf).resolve_left hn⟩)

end Kolibrie.Datalog
