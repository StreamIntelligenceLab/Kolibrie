import Kolibrie.Model.Dict
import Kolibrie.Spec.TermIds
/-!
Lemmas for C15.  `Dictionary` and `QuotedTripleStore` are each a pair of association lists kept in lock-step with a
counter; their common invariant is `BInv`, and what one `encode` does to such a pair is `Adds`.  On top of that:
lexical denotation `Den` and `decode_term`; the re-encoding target, what a step of `reencode_term_id` preserves
(`TInv`, `Step`) and a target that gains a single identifier (`Gives`); `union` at the level of identifiers
(`UnionFacts`) and of `decode_any`; the refinement of both stores to the first-appearance dictionary (`FRel`); the
database invariant `DBInv`, kept by every API call and implied by the driver's decidable checks.
-/
namespace Kolibrie.Dict
open Kolibrie.Extracted

theorem and_two_pow_ne_zero (id k : Nat) : (id &&& 2 ^ k != 0) = id.testBit k := by
  cases h : id.testBit k with
  | false =>
    have : id &&& 2 ^ k = 0 := by
      apply Nat.eq_of_testBit_eq
      intro i
      by_cases e : k = i
      · simp [Nat.testBit_and, ← e, h]
      · simp [Nat.testBit_and, e]
    simp [this]
  | true =>
    have : (id &&& 2 ^ k).testBit k = true := by simp [Nat.testBit_and, h, Nat.testBit_two_pow_self]
    rw [bne_iff_ne]
    intro e; rw [e] at this; simp at this

/-- the extracted constant is the single bit 31 (re-checked against the source on every run) -/
theorem quotedBit_eq : quotedBit = 2 ^ 31 := by decide

theorem isQuoted_eq_testBit (id : Nat) : isQuoted id = id.testBit 31 := by
  rw [isQuoted, quotedBit_eq, and_two_pow_ne_zero]

theorem isQuoted_lt (id : Nat) (h : id < quotedBit) : isQuoted id = false := by
  rw [isQuoted_eq_testBit]; exact Nat.testBit_lt_two_pow (quotedBit_eq ▸ h)

theorem isQuoted_ge (id : Nat) (h : isQuoted id = true) : quotedBit ≤ id := by
  rw [isQuoted_eq_testBit] at h; exact quotedBit_eq ▸ Nat.ge_two_pow_of_testBit h

theorem isQuoted_iff (id : Nat) (h : id < 2^32) : isQuoted id = true ↔ quotedBit ≤ id :=
  ⟨isQuoted_ge id, fun h' => by
    rw [isQuoted_eq_testBit]; exact Nat.testBit_of_two_pow_le_and_two_pow_add_one_gt (quotedBit_eq ▸ h') h⟩

theorem quotedBit_lt_u32Max : quotedBit < u32Max := by decide

theorem quotedBit_pos : 0 < quotedBit := by decide

section assoc
variable {κ : Type} {ν : Type} [BEq κ] [LawfulBEq κ] (l : List (κ × ν))

theorem lookup_filter_ne {k k' : κ} (h : (k' == k) = false) :
    (l.filter (fun e => !(e.1 == k))).lookup k' = l.lookup k' := by
  induction l with
  | nil => rfl
  | cons e l ih =>
    by_cases he : e.1 == k
    · rw [List.filter_cons_of_neg (by simp [he]), ih, List.lookup_cons, eq_of_beq he, h]
    · rw [List.filter_cons_of_pos (by simp [he]), List.lookup_cons, List.lookup_cons, ih]

theorem lookup_put_self (k : κ) (v : ν) : (put l k v).lookup k = some v := by
  rw [put, List.lookup_cons_self]

theorem lookup_put_of_ne {k k' : κ} (v : ν) (h : k' ≠ k) : (put l k v).lookup k' = l.lookup k' := by
  have hb : (k' == k) = false := beq_false_of_ne h
  rw [put, List.lookup_cons, hb]
  exact lookup_filter_ne l hb

variable {l}

theorem lookup_mem {k : κ} {v : ν} (h : l.lookup k = some v) : (k, v) ∈ l := by
  obtain ⟨l₁, l₂, rfl, _⟩ := List.lookup_eq_some_iff.1 h
  exact List.mem_append_right _ (List.mem_cons_self ..)

theorem mem_keys_iff {k : κ} : k ∈ keys l ↔ ∃ v, l.lookup k = some v := by
  rw [← Option.isSome_iff_exists, List.lookup_isSome_iff]
  simp only [keys, List.mem_map, beq_iff_eq]
  exact ⟨fun ⟨p, hp, e⟩ => ⟨p, hp, e.symm⟩, fun ⟨p, hp, e⟩ => ⟨p, hp, e.symm⟩⟩

theorem mem_put {k k' : κ} {v v' : ν} :
    (k', v') ∈ put l k v ↔ (k' = k ∧ v' = v) ∨ ((k', v') ∈ l ∧ k' ≠ k) := by
  simp [put]

theorem keys_put_nodup (k : κ) (v : ν) (h : (keys l).Nodup) : (keys (put l k v)).Nodup := by
  rw [keys, put, List.map_cons, List.nodup_cons]
  refine ⟨fun hm => ?_, (List.filter_sublist.map _).nodup h⟩
  obtain ⟨e, he, rfl⟩ := List.mem_map.1 hm
  simpa using (List.mem_filter.1 he).2

end assoc

section bimap
variable {κ : Type} [BEq κ] [LawfulBEq κ]

structure BInv (fwd : List (κ × Nat)) (bwd : List (Nat × κ)) (lo next : Nat) : Prop where
  inv : ∀ k i, fwd.lookup k = some i ↔ bwd.lookup i = some k
  range : ∀ i k, bwd.lookup i = some k → lo ≤ i ∧ i < next
  nodupF : (keys fwd).Nodup
  nodupB : (keys bwd).Nodup

omit [LawfulBEq κ] in
theorem BInv.empty (lo next : Nat) : BInv ([] : List (κ × Nat)) [] lo next :=
  ⟨fun _ _ => ⟨nofun, nofun⟩, nofun, .nil, .nil⟩

/-- what `encode k = i` does to the two maps `f`, `b` at counter `n`: afterwards (`f'`, `b'`) they hold `k ↔ i` and
    everything they held before, and a binding they did not hold before is `n ↔ k` -/
structure Adds (f : List (κ × Nat)) (b : List (Nat × κ)) (n : Nat) (f' : List (κ × Nat)) (b' : List (Nat × κ))
    (k : κ) (i : Nat) : Prop where
  fwd : f'.lookup k = some i
  bwd : b'.lookup i = some k
  keepF : ∀ t j, f.lookup t = some j → f'.lookup t = some j
  keepB : ∀ j t, b.lookup j = some t → b'.lookup j = some t
  new : ∀ j t, b'.lookup j = some t → b.lookup j = some t ∨ (j = i ∧ t = k ∧ i = n)

variable {fwd : List (κ × Nat)} {bwd : List (Nat × κ)} {lo n : Nat} (h : BInv fwd bwd lo n) {k : κ}
include h

omit [LawfulBEq κ] in
theorem BInv.inj {k' : κ} {i : Nat} (h1 : fwd.lookup k = some i) (h2 : fwd.lookup k' = some i) : k = k' :=
  Option.some.inj (((h.inv k i).1 h1).symm.trans ((h.inv k' i).1 h2))

omit [LawfulBEq κ] in
theorem BInv.adds_of_lookup {i : Nat} (hk : fwd.lookup k = some i) : Adds fwd bwd n fwd bwd k i :=
  ⟨hk, (h.inv k i).1 hk, fun _ _ x => x, fun _ _ x => x, fun _ _ x => .inl x⟩

theorem BInv.adds_put (hk : fwd.lookup k = none) : Adds fwd bwd n (put fwd k n) (put bwd n k) k n := by
  refine ⟨lookup_put_self .., lookup_put_self .., fun t j ht => ?_, fun j t ht => ?_, fun j t ht => ?_⟩
  · rwa [lookup_put_of_ne _ _ fun e => by rw [e, hk] at ht; cases ht]
  · rwa [lookup_put_of_ne _ _ (Nat.ne_of_lt (h.range j t ht).2)]
  · by_cases e : j = n
    · rw [e, lookup_put_self] at ht
      exact .inr ⟨e, (Option.some.inj ht).symm, rfl⟩
    · rw [lookup_put_of_ne _ _ e] at ht
      exact .inl ht

theorem BInv.put (hk : fwd.lookup k = none) (hlo : lo ≤ n) : BInv (put fwd k n) (put bwd n k) lo (n + 1) := by
  have A := h.adds_put hk
  refine ⟨fun k' i => ⟨fun hf => ?_, fun hb => ?_⟩, fun i k' hb => ?_,
    keys_put_nodup _ _ h.nodupF, keys_put_nodup _ _ h.nodupB⟩
  · by_cases e : k' = k
    · rw [e, lookup_put_self] at hf
      cases hf; exact e ▸ A.bwd
    · rw [lookup_put_of_ne _ _ e] at hf
      exact A.keepB _ _ ((h.inv k' i).1 hf)
  · rcases A.new i k' hb with old | ⟨rfl, rfl, _⟩
    · exact A.keepF _ _ ((h.inv k' i).2 old)
    · exact A.fwd
  · rcases A.new i k' hb with old | ⟨rfl, _, _⟩
    · exact ⟨(h.range i k' old).1, Nat.lt_succ_of_lt (h.range i k' old).2⟩
    · exact ⟨hlo, Nat.lt_succ_self _⟩

end bimap

/-- `below` is what the `assert!` in `Dictionary::encode` maintains -/
structure DInv (d : Dict) : Prop where
  bi : BInv d.s2i d.i2s 0 d.next
  below : ∀ i s, d.i2s.lookup i = some s → i < quotedBit

theorem DInv.start (n : Nat) : DInv ⟨[], [], n⟩ := ⟨BInv.empty 0 n, nofun⟩

theorem Dict.encode_cases (d : Dict) (s : String) :
    (∃ i, d.s2i.lookup s = some i ∧ d.encode s = .ok (d, i)) ∨
    (d.s2i.lookup s = none ∧ d.next < quotedBit ∧
      d.encode s = .ok (⟨put d.s2i s d.next, put d.i2s d.next s, d.next + 1⟩, d.next)) ∨
    (d.s2i.lookup s = none ∧ ¬ d.next < quotedBit ∧ d.encode s = .error .panic) := by
  unfold Dict.encode
  cases d.s2i.lookup s with
  | some i => exact .inl ⟨i, rfl, rfl⟩
  | none =>
    by_cases hn : d.next < quotedBit
    · exact .inr (.inl ⟨rfl, hn, if_pos hn⟩)
    · exact .inr (.inr ⟨rfl, hn, if_neg hn⟩)

theorem encode_spec {d d' : Dict} {s : String} {i : Nat} (h : DInv d) (he : d.encode s = .ok (d', i)) :
    DInv d' ∧ Adds d.s2i d.i2s d.next d'.s2i d'.i2s s i ∧ i < quotedBit := by
  rcases d.encode_cases s with ⟨j, hl, e⟩ | ⟨hl, hn, e⟩ | ⟨_, _, e⟩
  · cases e.symm.trans he
    have A := h.bi.adds_of_lookup hl
    exact ⟨h, A, h.below _ _ A.bwd⟩
  · cases e.symm.trans he
    have A := h.bi.adds_put hl
    refine ⟨⟨h.bi.put hl (Nat.zero_le _), fun j t hj => ?_⟩, A, hn⟩
    rcases A.new j t hj with old | ⟨rfl, _, _⟩
    · exact h.below j t old
    · exact hn
  · cases e.symm.trans he

theorem dict_encode_err {d : Dict} {s : String} {e : Err} (h : d.encode s = .error e) : e = .panic := by
  rcases d.encode_cases s with ⟨_, _, e'⟩ | ⟨_, _, e'⟩ | ⟨_, _, e'⟩
  · cases e'.symm.trans h
  · cases e'.symm.trans h
  · cases e'.symm.trans h; rfl

structure QInv (q : QStore) : Prop where
  bi : BInv q.c2i q.i2c quotedBit q.next
  lo : quotedBit ≤ q.next
  hi : q.next ≤ u32Max

/-- nesting is well-founded: a component that is itself a quoted id is smaller than the id it is part of -/
def QWf (q : QStore) : Prop :=
  ∀ id a b c, q.decode id = some (a, b, c) →
    (isQuoted a = true → a < id) ∧ (isQuoted b = true → b < id) ∧ (isQuoted c = true → c < id)

theorem QInv.start (n : Nat) (h1 : quotedBit ≤ n) (h2 : n ≤ u32Max) : QInv ⟨[], [], n⟩ := ⟨BInv.empty _ _, h1, h2⟩

theorem QInv.isQuoted {q : QStore} (h : QInv q) {id : Nat} {c : Comp} (hd : q.decode id = some c) :
    isQuoted id = true ∧ id < q.next := by
  have r := h.bi.range id c hd
  have : u32Max < 2 ^ 32 := by decide
  exact ⟨(isQuoted_iff id (Nat.lt_of_lt_of_le r.2 (Nat.le_trans h.hi (Nat.le_of_lt this)))).2 r.1, r.2⟩

theorem QStore.encode_cases (q : QStore) (c : Comp) :
    (∃ i, q.c2i.lookup c = some i ∧ q.encode c = .ok (q, i)) ∨
    (q.c2i.lookup c = none ∧ q.next < u32Max ∧
      q.encode c = .ok (⟨put q.i2c q.next c, put q.c2i c q.next, q.next + 1⟩, q.next)) ∨
    (q.c2i.lookup c = none ∧ ¬ q.next < u32Max ∧ q.encode c = .error .panic) := by
  unfold QStore.encode
  cases q.c2i.lookup c with
  | some i => exact .inl ⟨i, rfl, rfl⟩
  | none =>
    by_cases hn : q.next < u32Max
    · exact .inr (.inl ⟨rfl, hn, if_pos hn⟩)
    · exact .inr (.inr ⟨rfl, hn, if_neg hn⟩)

theorem qencode_spec {q q' : QStore} {c : Comp} {i : Nat} (h : QInv q) (he : q.encode c = .ok (q', i)) :
    QInv q' ∧ Adds q.c2i q.i2c q.next q'.c2i q'.i2c c i := by
  rcases q.encode_cases c with ⟨j, hl, e⟩ | ⟨hl, hn, e⟩ | ⟨_, _, e⟩
  · cases e.symm.trans he
    exact ⟨h, h.bi.adds_of_lookup hl⟩
  · cases e.symm.trans he
    exact ⟨⟨h.bi.put hl h.lo, Nat.le_succ_of_le h.lo, hn⟩, h.bi.adds_put hl⟩
  · cases e.symm.trans he

theorem q_encode_err {q : QStore} {c : Comp} {e : Err} (h : q.encode c = .error e) : e = .panic := by
  rcases q.encode_cases c with ⟨_, _, e'⟩ | ⟨_, _, e'⟩ | ⟨_, _, e'⟩
  · cases e'.symm.trans h
  · cases e'.symm.trans h
  · cases e'.symm.trans h; rfl

theorem qencode_wf {q q' : QStore} {a b c : Nat} {i : Nat} (h : QInv q) (hw : QWf q)
    (he : q.encode (a, b, c) = .ok (q', i))
    (ha : isQuoted a = true → a < q.next) (hb : isQuoted b = true → b < q.next) (hc : isQuoted c = true → c < q.next) :
    QWf q' := by
  intro id x y z hd
  rcases (qencode_spec h he).2.new id _ hd with old | ⟨rfl, e, rfl⟩
  · exact hw id x y z old
  · cases e; exact ⟨ha, hb, hc⟩

theorem Den.valid {d : Dict} {q : QStore} {id : Nat} {τ : LTerm} (h : Den d q id τ) : validId d q id = true := by
  cases h with
  | plain hq hd => simp [validId, hq, hd]
  | quoted hq hd _ _ _ => simp [validId, hq, hd]

section den
variable {d : Dict} {q : QStore} {id : Nat} {τ : LTerm}

theorem Den.functional {τ' : LTerm} (h : Den d q id τ) (h' : Den d q id τ') : τ = τ' := by
  induction h generalizing τ' with
  | plain hq hd =>
    cases h' with
    | plain _ hd' => cases hd.symm.trans hd'; rfl
    | quoted hq' _ _ _ _ => cases hq.symm.trans hq'
  | quoted hq hd _ _ _ iha ihb ihc =>
    cases h' with
    | plain hq' _ => cases hq.symm.trans hq'
    | quoted _ hd' ha' hb' hc' =>
      cases hd.symm.trans hd'
      rw [iha ha', ihb hb', ihc hc']

theorem Den.mono {d' : Dict} {q' : QStore}
    (hd : ∀ j t, d.decode j = some t → d'.decode j = some t)
    (hq : ∀ j t, q.decode j = some t → q'.decode j = some t)
    (h : Den d q id τ) : Den d' q' id τ := by
  induction h with
  | plain hq' hd' => exact .plain hq' (hd _ _ hd')
  | quoted hq' hd' _ _ _ iha ihb ihc => exact .quoted hq' (hq _ _ hd') iha ihb ihc

/-- **distinct identifiers denote distinct terms** (with `Den.functional`: identifiers ↔ terms is a bijection) -/
theorem Den.inj (hD : DInv d) (hQ : QInv q) {id' : Nat} (h : Den d q id τ) (h' : Den d q id' τ) : id = id' := by
  induction h generalizing id' with
  | plain _ hd =>
    cases h' with
    | plain _ hd' => exact Option.some.inj (((hD.bi.inv _ _).2 hd).symm.trans ((hD.bi.inv _ _).2 hd'))
  | quoted _ hd _ _ _ iha ihb ihc =>
    cases h' with
    | quoted _ hd' ha' hb' hc' =>
      cases iha ha'; cases ihb hb'; cases ihc hc'
      exact Option.some.inj (((hQ.bi.inv _ _).2 hd).symm.trans ((hQ.bi.inv _ _).2 hd'))

theorem Den.lt_next (hQ : QInv q) (h : Den d q id τ) (hq : isQuoted id = true) : id < q.next := by
  cases h with
  | plain hq' _ => cases hq.symm.trans hq'
  | quoted _ hd _ _ _ => exact (hQ.isQuoted hd).2

variable (d q)

theorem decodeTermF_sound : ∀ (f id : Nat) (τ : LTerm), decodeTermF d q f id = .ok (some τ) → Den d q id τ := by
  intro f
  induction f with
  | zero => intro id τ h; cases h
  | succ f ih =>
    intro id τ h
    rw [decodeTermF] at h
    split at h
    next hq =>
      split at h
      · cases h
      next a b c hd =>
      -- each of the three recursive results is `.ok (some _)`, or it is what `h` says was returned
      split at h
      next ta ha =>
        split at h
        next tb hb =>
          split at h
          next tc hc => cases h; exact .quoted hq hd (ih _ _ ha) (ih _ _ hb) (ih _ _ hc)
          next hn => exact (hn _ h).elim
        next hn => exact (hn _ h).elim
      next hn => exact (hn _ h).elim
    next hq =>
      cases hd : d.decode id with
      | none => rw [hd] at h; cases h
      | some s => rw [hd] at h; cases h; exact .plain (Bool.eq_false_iff.2 hq) hd

end den

def fuelOK (f id : Nat) : Prop := 1 ≤ f ∧ (isQuoted id = true → id < f)

theorem fuelOK_fuelFor (id : Nat) : fuelOK (fuelFor id) id := ⟨Nat.succ_le_succ (Nat.zero_le _), fun _ => Nat.lt_succ_self _⟩

/-- the components of a quoted `id` get by with one unit less: `id` is positive and its quoted components are smaller -/
theorem fuelOK_comp {f id x : Nat} (h : fuelOK (f + 1) id) (hq : isQuoted id = true)
    (hx : isQuoted x = true → x < id) : fuelOK f x :=
  have hid : id ≤ f := Nat.le_of_lt_succ (h.2 hq)
  ⟨Nat.le_trans (Nat.le_trans quotedBit_pos (isQuoted_ge id hq)) hid, fun hxq => Nat.lt_of_lt_of_le (hx hxq) hid⟩

theorem decodeTermF_complete (d : Dict) (q : QStore) (hw : QWf q) {id : Nat} {τ : LTerm} (h : Den d q id τ) :
    ∀ f, fuelOK f id → decodeTermF d q f id = .ok (some τ) := by
  induction h with
  | plain hq hd =>
    intro f hf
    cases f with
    | zero => exact absurd hf.1 (Nat.not_succ_le_zero 0)
    | succ f => simp [decodeTermF, hq, hd]
  | @quoted id a b c ta tb tc hq hd _ _ _ iha ihb ihc =>
    intro f hf
    cases f with
    | zero => exact absurd hf.1 (Nat.not_succ_le_zero 0)
    | succ f =>
      obtain ⟨wa, wb, wc⟩ := hw id a b c hd
      simp [decodeTermF, hq, hd, iha f (fuelOK_comp hf hq wa), ihb f (fuelOK_comp hf hq wb),
        ihc f (fuelOK_comp hf hq wc)]

theorem decodeTerm_iff (d : Dict) (q : QStore) (hw : QWf q) (id : Nat) (τ : LTerm) :
    decodeTerm d q id = .ok (some τ) ↔ Den d q id τ :=
  ⟨decodeTermF_sound d q _ id τ, fun h => decodeTermF_complete d q hw h _ (fuelOK_fuelFor id)⟩

theorem den_iff (db : DB) (hw : QWf db.q) (id : Nat) (τ : LTerm) : db.den id = some τ ↔ Den db.d db.q id τ := by
  rw [← decodeTerm_iff db.d db.q hw id τ, DB.den]
  cases decodeTerm db.d db.q id <;> simp

structure TInv (t : Tgt) : Prop where
  d : DInv t.d
  q : QInv t.q
  wf : QWf t.q
  closed : ∀ id c, t.q.decode id = some c → ∃ τ, Den t.d t.q id τ

def CacheOK (sd : Dict) (sq : QStore) (t : Tgt) : Prop :=
  ∀ i j, t.cache.lookup i = some j → ∃ τ, Den sd sq i τ ∧ Den t.d t.q j τ

def Ext (t t' : Tgt) : Prop :=
  (∀ j s, t.d.decode j = some s → t'.d.decode j = some s) ∧ (∀ j c, t.q.decode j = some c → t'.q.decode j = some c)

def NoJunk (sd : Dict) (sq : QStore) (t t' : Tgt) : Prop :=
  ∀ x τ, Den t'.d t'.q x τ → Den t.d t.q x τ ∨ ∃ i, Den sd sq i τ

structure Step (sd : Dict) (sq : QStore) (t t' : Tgt) : Prop where
  inv : TInv t'
  cache : CacheOK sd sq t'
  ext : Ext t t'
  nojunk : NoJunk sd sq t t'

section reencode
variable {sd : Dict} {sq : QStore} {t t' : Tgt}

theorem Ext.refl (t : Tgt) : Ext t t := ⟨fun _ _ h => h, fun _ _ h => h⟩
theorem Ext.trans {a b c : Tgt} (h1 : Ext a b) (h2 : Ext b c) : Ext a c :=
  ⟨fun j s h => h2.1 j s (h1.1 j s h), fun j s h => h2.2 j s (h1.2 j s h)⟩
theorem Ext.den (h : Ext t t') {id : Nat} {τ : LTerm} (hd : Den t.d t.q id τ) : Den t'.d t'.q id τ :=
  hd.mono h.1 h.2

theorem NoJunk.refl (sd : Dict) (sq : QStore) (t : Tgt) : NoJunk sd sq t t := fun _ _ h => .inl h
theorem NoJunk.trans {a b c : Tgt} (h1 : NoJunk sd sq a b) (h2 : NoJunk sd sq b c) : NoJunk sd sq a c :=
  fun x τ h => (h2 x τ h).elim (h1 x τ) .inr

theorem Step.refl (hT : TInv t) (hC : CacheOK sd sq t) : Step sd sq t t :=
  ⟨hT, hC, Ext.refl t, NoJunk.refl sd sq t⟩

theorem Step.trans {a b c : Tgt} (h1 : Step sd sq a b) (h2 : Step sd sq b c) : Step sd sq a c :=
  ⟨h2.inv, h2.cache, h1.ext.trans h2.ext, h1.nojunk.trans h2.nojunk⟩

theorem cacheOK_put {id j : Nat} {τ : LTerm} (hc : CacheOK sd sq t) (he : Ext t t') (hs : Den sd sq id τ)
    (ht : Den t'.d t'.q j τ) (hcache : t'.cache = put t.cache id j) : CacheOK sd sq t' := by
  intro i k hl
  rw [hcache] at hl
  by_cases e : i = id
  · rw [e, lookup_put_self] at hl
    cases hl; exact e ▸ ⟨τ, hs, ht⟩
  · rw [lookup_put_of_ne _ _ e] at hl
    obtain ⟨τ', a, b⟩ := hc i k hl
    exact ⟨τ', a, he.den b⟩

/-- `t'` is `t` extended by at most one identifier, `j`, which stands for the term `τ` -/
structure Gives (t t' : Tgt) (j : Nat) (τ : LTerm) : Prop where
  inv : TInv t'
  ext : Ext t t'
  den : Den t'.d t'.q j τ
  only : ∀ x τ', Den t'.d t'.q x τ' → Den t.d t.q x τ' ∨ τ' = τ

/-- Every identifier of `t'` other than `j` is one of `t`, where by closure it has a denotation already; that
    denotation persists in `t'`, so it is the only one. -/
theorem Gives.of_new (hT : TInv t) (E : Ext t t') (D : DInv t'.d) (Q : QInv t'.q) (W : QWf t'.q)
    {j : Nat} {τ : LTerm} (hj : Den t'.d t'.q j τ)
    (hd : ∀ x s, t'.d.decode x = some s → t.d.decode x = some s ∨ x = j)
    (hq : ∀ x c, t'.q.decode x = some c → t.q.decode x = some c ∨ x = j) : Gives t t' j τ := by
  refine ⟨⟨D, Q, W, fun x c hx => ?_⟩, E, hj, fun x τ' hx => ?_⟩
  · rcases hq x c hx with old | rfl
    · obtain ⟨τ0, h0⟩ := hT.closed x c old
      exact ⟨τ0, E.den h0⟩
    · exact ⟨τ, hj⟩
  · by_cases e : x = j
    · exact .inr ((e ▸ hx).functional hj)
    · cases hx with
      | plain hxq hxd => exact .inl (.plain hxq ((hd x _ hxd).resolve_right e))
      | quoted hxq hxd ha hb hc =>
        obtain ⟨τ0, h0⟩ := hT.closed x _ ((hq x _ hxd).resolve_right e)
        exact .inl ((E.den h0).functional (.quoted hxq hxd ha hb hc) ▸ h0)

theorem TInv.encode (hT : TInv t) {s : String} {d' : Dict} {i : Nat} (he : t.d.encode s = .ok (d', i))
    (ch : List (Nat × Nat)) : Gives t ⟨d', t.q, ch⟩ i (.plain s) := by
  obtain ⟨D', A, hlt⟩ := encode_spec hT.d he
  have E : Ext t ⟨d', t.q, ch⟩ := ⟨A.keepB, fun _ _ x => x⟩
  exact .of_new hT E D' hT.q hT.wf (.plain (isQuoted_lt i hlt) A.bwd)
    (fun x s hx => (A.new x s hx).imp_right And.left) (fun _ _ hx => .inl hx)

theorem TInv.qencode (hT : TInv t) {a b c i : Nat} {q' : QStore} {τa τb τc : LTerm}
    (he : t.q.encode (a, b, c) = .ok (q', i)) (da : Den t.d t.q a τa) (db : Den t.d t.q b τb) (dc : Den t.d t.q c τc)
    (ch : List (Nat × Nat)) : Gives t ⟨t.d, q', ch⟩ i (.quoted τa τb τc) := by
  obtain ⟨Q', A⟩ := qencode_spec hT.q he
  have E : Ext t ⟨t.d, q', ch⟩ := ⟨fun _ _ x => x, A.keepB⟩
  exact .of_new hT E hT.d Q' (qencode_wf hT.q hT.wf he (da.lt_next hT.q) (db.lt_next hT.q) (dc.lt_next hT.q))
    (.quoted (Q'.isQuoted A.bwd).1 A.bwd (E.den da) (E.den db) (E.den dc))
    (fun _ _ hx => .inl hx) (fun x cx hx => (A.new x cx hx).imp_right And.left)

theorem Gives.step {id j : Nat} {τ : LTerm} (G : Gives t t' j τ) (hC : CacheOK sd sq t) (hs : Den sd sq id τ)
    (hcache : t'.cache = put t.cache id j) : Step sd sq t t' :=
  ⟨G.inv, cacheOK_put hC G.ext hs G.den hcache, G.ext,
    fun x τ' hx => (G.only x τ' hx).imp_right fun (e : τ' = τ) => ⟨id, e ▸ hs⟩⟩

/-- how a call of the model may end: with a result that satisfies `P`, or with a panic of the implementation —
    as long as `pre` holds, never with the model's own `fuel` -/
inductive Ends {α : Type} (P : α → Prop) (pre : Prop) : Except Err α → Prop
  | ok {a} : P a → Ends P pre (.ok a)
  | err {e} : (pre → e = .panic) → Ends P pre (.error e)

section ends
variable {α : Type} {P : α → Prop} {pre : Prop} {r : Except Err α} (h : Ends P pre r)
include h

theorem Ends.of_ok {a : α} (e : r = .ok a) : P a := by
  cases h with
  | ok h => cases e; exact h
  | err => cases e

theorem Ends.of_err {x : Err} (e : r = .error x) : pre → x = .panic := by
  cases h with
  | ok => cases e
  | err h => cases e; exact h

theorem Ends.weaken {pre' : Prop} (f : pre' → pre) : Ends P pre' r := by
  cases h with
  | ok h => exact .ok h
  | err h => exact .err fun p => h (f p)

end ends

def StepTo (sd : Dict) (sq : QStore) (t : Tgt) {β : Type} (R : Tgt → β → Prop) (r : Tgt × β) : Prop :=
  TInv t → CacheOK sd sq t → Step sd sq t r.1 ∧ R r.1 r.2

variable (sd sq)

/-- **`reencode_term_id` preserves lexical denotation.**  Whenever the call returns, the returned target id denotes
    in the (extended) target exactly what `id` denotes in the source; the target invariant and the cache stay
    correct; nothing already in the target changes; nothing but source terms is added.  And with a well-founded
    source store the recursion budget `fuelFor id` always suffices. -/
theorem reencodeF_ends : ∀ (f id : Nat) (t : Tgt),
    Ends (StepTo sd sq t fun t' j => ∃ τ, Den sd sq id τ ∧ Den t'.d t'.q j τ) (QWf sq ∧ fuelOK f id)
      (reencodeF sd sq f id t) := by
  intro f
  induction f with
  | zero => exact fun id t => .err fun o => absurd o.2.1 (Nat.not_succ_le_zero 0)
  | succ f ih =>
    intro id t
    rw [reencodeF]
    split
    next tr hl => exact .ok fun hT hC => ⟨.refl hT hC, hC id tr hl⟩
    split
    next hq =>
      split
      · exact .err fun _ => rfl
      next a b c hd =>
      -- the budget of `id` covers its components
      have sub : ∀ x, (QWf sq → isQuoted x = true → x < id) → QWf sq ∧ fuelOK (f + 1) id → QWf sq ∧ fuelOK f x :=
        fun x hx o => ⟨o.1, fuelOK_comp o.2 hq (hx o.1)⟩
      split
      next h1 => exact .err fun o => (ih a t).of_err h1 (sub a (fun hw => (hw id a b c hd).1) o)
      next t1 a' h1 =>
      split
      next h2 => exact .err fun o => (ih b t1).of_err h2 (sub b (fun hw => (hw id a b c hd).2.1) o)
      next t2 b' h2 =>
      split
      next h3 => exact .err fun o => (ih c t2).of_err h3 (sub c (fun hw => (hw id a b c hd).2.2) o)
      next t3 c' h3 =>
      split
      next h4 => exact .err fun _ => q_encode_err h4
      next q' j h4 =>
      refine .ok fun hT hC => ?_
      obtain ⟨s1, τa, da, da'⟩ := (ih a t).of_ok h1 hT hC
      obtain ⟨s2, τb, db, db'⟩ := (ih b t1).of_ok h2 s1.inv s1.cache
      obtain ⟨s3, τc, dc, dc'⟩ := (ih c t2).of_ok h3 s2.inv s2.cache
      have src : Den sd sq id (.quoted τa τb τc) := .quoted hq hd da db dc
      have G := s3.inv.qencode h4 (s3.ext.den (s2.ext.den da')) (s3.ext.den db') dc' (put t3.cache id j)
      exact ⟨((s1.trans s2).trans s3).trans (G.step s3.cache src rfl), _, src, G.den⟩
    next hq =>
      split
      · exact .err fun _ => rfl
      next lex hd =>
      split
      next h4 => exact .err fun _ => dict_encode_err h4
      next d' j h4 =>
      refine .ok fun hT hC => ?_
      have src : Den sd sq id (.plain lex) := .plain (Bool.eq_false_iff.2 hq) hd
      have G := hT.encode h4 (put t.cache id j)
      exact ⟨G.step hC src rfl, _, src, G.den⟩

end reencode

def SameId (sd : Dict) (sq : QStore) (t : Tgt) (i x : Nat) : Prop := ∃ τ, Den sd sq i τ ∧ Den t.d t.q x τ

theorem SameId.retarget {sd : Dict} {sq : QStore} {t t' : Tgt} {i x : Nat} (h : SameId sd sq t i x)
    (hd : t.d = t'.d) (hq : t.q = t'.q) : SameId sd sq t' i x := by
  obtain ⟨τ, a, b⟩ := h; exact ⟨τ, a, by rw [← hd, ← hq]; exact b⟩

def All2 {α β} (R : α → β → Prop) : List α → List β → Prop
  | [], [] => True
  | a :: as, b :: bs => R a b ∧ All2 R as bs
  | _, _ => False

def SameIds (sd : Dict) (sq : QStore) (t : Tgt) : List Nat → List Nat → Prop
  | [], [] => True
  | i :: is, x :: xs => SameId sd sq t i x ∧ SameIds sd sq t is xs
  | _, _ => False

def SameTriple (sd : Dict) (sq : QStore) (t : Tgt) (c c' : Comp) : Prop :=
  SameId sd sq t c.1 c'.1 ∧ SameId sd sq t c.2.1 c'.2.1 ∧ SameId sd sq t c.2.2 c'.2.2

def SameQuad (sd : Dict) (sq : QStore) (t : Tgt) (a b : QuadI) : Prop :=
  SameId sd sq t a.s b.s ∧ SameId sd sq t a.p b.p ∧ SameId sd sq t a.o b.o ∧
  match a.g, b.g with
  | none, none => True
  | some g, some g' => SameId sd sq t g g'
  | _, _ => False

def SameSeed (sd : Dict) (sq : QStore) (t : Tgt) (a b : Seed) : Prop := SameTriple sd sq t a.1 b.1 ∧ a.2 = b.2

section all2
variable {α β : Type} {R : α → β → Prop} {as : List α} {bs : List β}

theorem All2.imp {S : α → β → Prop} (h : ∀ a b, R a b → S a b) (hr : All2 R as bs) : All2 S as bs := by
  induction as generalizing bs with
  | nil => cases bs with | nil => trivial | cons => exact hr.elim
  | cons a as ih => cases bs with | nil => exact hr.elim | cons b bs => exact ⟨h _ _ hr.1, ih hr.2⟩

theorem All2.flip (hr : All2 R as bs) : All2 (fun b a => R a b) bs as := by
  induction as generalizing bs with
  | nil => cases bs with | nil => trivial | cons => exact hr.elim
  | cons a as ih => cases bs with | nil => exact hr.elim | cons b bs => exact ⟨hr.1, ih hr.2⟩

theorem All2.fwd (hr : All2 R as bs) : ∀ a ∈ as, ∃ b ∈ bs, R a b := by
  induction as generalizing bs with
  | nil => nofun
  | cons x as ih =>
    cases bs with
    | nil => exact hr.elim
    | cons y bs =>
      intro a ha
      rcases List.mem_cons.1 ha with rfl | ha
      · exact ⟨y, List.mem_cons_self .., hr.1⟩
      · obtain ⟨b, hb, hab⟩ := ih hr.2 a ha
        exact ⟨b, List.mem_cons_of_mem _ hb, hab⟩

theorem All2.bwd (hr : All2 R as bs) : ∀ b ∈ bs, ∃ a ∈ as, R a b := hr.flip.fwd

theorem All2.nodup_keys {γ δ : Type} (ka : α → γ) (kb : β → δ)
    (hinj : ∀ a a' b b', R a b → R a' b' → kb b = kb b' → ka a = ka a')
    (hr : All2 R as bs) (hn : (as.map ka).Nodup) : (bs.map kb).Nodup := by
  induction as generalizing bs with
  | nil => cases bs with | nil => exact .nil | cons => exact hr.elim
  | cons a as ih =>
    cases bs with
    | nil => exact hr.elim
    | cons b bs =>
      rw [List.map_cons, List.nodup_cons] at hn ⊢
      refine ⟨fun hm => ?_, ih hr.2 hn.2⟩
      obtain ⟨b', hb', e⟩ := List.mem_map.1 hm
      obtain ⟨a', ha', hr'⟩ := hr.2.bwd b' hb'
      exact hn.1 (List.mem_map.2 ⟨a', ha', (hinj a a' b b' hr.1 hr' e.symm).symm⟩)

end all2

section translate
variable {sd : Dict} {sq : QStore} {t t' : Tgt}

theorem SameId.src {i x : Nat} (h : SameId sd sq t i x) : ∃ τ, Den sd sq i τ := h.imp fun _ => And.left

theorem SameId.tgt {i x : Nat} (h : SameId sd sq t i x) : ∃ τ, Den t.d t.q x τ := h.imp fun _ => And.right

theorem SameId.mono {i x : Nat} (h : SameId sd sq t i x) (e : Ext t t') : SameId sd sq t' i x :=
  h.imp fun _ p => ⟨p.1, e.den p.2⟩

theorem SameTriple.mono {c c' : Comp} (h : SameTriple sd sq t c c') (e : Ext t t') : SameTriple sd sq t' c c' :=
  ⟨h.1.mono e, h.2.1.mono e, h.2.2.mono e⟩

theorem SameQuad.mono {a b : QuadI} (h : SameQuad sd sq t a b) (e : Ext t t') : SameQuad sd sq t' a b := by
  obtain ⟨h1, h2, h3, h4⟩ := h
  refine ⟨h1.mono e, h2.mono e, h3.mono e, ?_⟩
  cases ha : a.g <;> cases hb : b.g <;> simp only [ha, hb] at h4 ⊢
  exact h4.mono e

theorem sameIds_iff {is xs : List Nat} : SameIds sd sq t is xs ↔ All2 (SameId sd sq t) is xs := by
  induction is generalizing xs with
  | nil => cases xs <;> exact Iff.rfl
  | cons i is ih => cases xs with | nil => exact Iff.rfl | cons x xs => exact and_congr_right fun _ => ih

theorem reencode_ends (id : Nat) (t : Tgt) :
    Ends (StepTo sd sq t fun t' j => SameId sd sq t' id j) (QWf sq) (reencode sd sq id t) :=
  (reencodeF_ends sd sq (fuelFor id) id t).weaken fun hw => ⟨hw, fuelOK_fuelFor id⟩

theorem reencList_ends (ids : List Nat) (t : Tgt) :
    Ends (StepTo sd sq t fun t' xs => All2 (SameId sd sq t') ids xs) (QWf sq) (reencList sd sq ids t) := by
  induction ids generalizing t with
  | nil => exact .ok fun hT hC => ⟨.refl hT hC, trivial⟩
  | cons id rest ih =>
    rw [reencList]
    split
    next h1 => exact .err ((reencode_ends id t).of_err h1)
    next t1 x h1 =>
    split
    next h2 => exact .err ((ih t1).of_err h2)
    next t2 xs h2 =>
    refine .ok fun hT hC => ?_
    obtain ⟨s1, sx⟩ := (reencode_ends id t).of_ok h1 hT hC
    obtain ⟨s2, sxs⟩ := (ih t1).of_ok h2 s1.inv s1.cache
    exact ⟨s1.trans s2, sx.mono s2.ext, sxs⟩

theorem reencList_length {ids xs : List Nat} (h : reencList sd sq ids t = .ok (t', xs)) : xs.length = ids.length := by
  induction ids generalizing t xs with
  | nil => cases h; rfl
  | cons id rest ih =>
    rw [reencList] at h
    split at h
    · cases h
    split at h
    · cases h
    next h2 => cases h; exact congrArg (· + 1) (ih h2)

theorem reencTriple_ends (c : Comp) (t : Tgt) :
    Ends (StepTo sd sq t fun t' c' => SameTriple sd sq t' c c') (QWf sq) (reencTriple sd sq c t) := by
  have h := reencList_ends (sd := sd) (sq := sq) [c.1, c.2.1, c.2.2] t
  unfold reencTriple
  split
  next x y z h1 => exact .ok fun hT hC => have ⟨s, a, b, c, _⟩ := h.of_ok h1 hT hC; ⟨s, a, b, c⟩
  next r hne h1 =>
    -- three ids in, three ids out: this branch is dead
    exact (hne _ _ _ _ (Prod.ext rfl (List.eq_getElem_of_length_eq_three r.2 (reencList_length h1)))).elim
  next h1 => exact .err (h.of_err h1)

theorem reencQuad_ends (qd : QuadI) (t : Tgt) :
    Ends (StepTo sd sq t fun t' qd' => SameQuad sd sq t' qd qd') (QWf sq) (reencQuad sd sq qd t) := by
  unfold reencQuad
  split
  next h1 => exact .err ((reencTriple_ends _ t).of_err h1)
  next t1 s p o h1 =>
  split
  next hg =>
    refine .ok fun hT hC => ?_
    obtain ⟨s1, hs, hp, ho⟩ := (reencTriple_ends _ t).of_ok h1 hT hC
    exact ⟨s1, hs, hp, ho, by simp [hg]⟩
  next g hg =>
  split
  next h2 => exact .err ((reencode_ends g t1).of_err h2)
  next t2 g' h2 =>
  refine .ok fun hT hC => ?_
  obtain ⟨s1, hs, hp, ho⟩ := (reencTriple_ends _ t).of_ok h1 hT hC
  obtain ⟨s2, sg⟩ := (reencode_ends g t1).of_ok h2 s1.inv s1.cache
  exact ⟨s1.trans s2, hs.mono s2.ext, hp.mono s2.ext, ho.mono s2.ext, by simpa [hg] using sg⟩

theorem reencQuads_ends (qs : List QuadI) (t : Tgt) :
    Ends (StepTo sd sq t fun t' qs' => All2 (SameQuad sd sq t') qs qs') (QWf sq) (reencQuads sd sq qs t) := by
  induction qs generalizing t with
  | nil => exact .ok fun hT hC => ⟨.refl hT hC, trivial⟩
  | cons qd rest ih =>
    rw [reencQuads]
    split
    next h1 => exact .err ((reencQuad_ends qd t).of_err h1)
    next t1 x h1 =>
    split
    next h2 => exact .err ((ih t1).of_err h2)
    next t2 xs h2 =>
    refine .ok fun hT hC => ?_
    obtain ⟨s1, sx⟩ := (reencQuad_ends qd t).of_ok h1 hT hC
    obtain ⟨s2, sxs⟩ := (ih t1).of_ok h2 s1.inv s1.cache
    exact ⟨s1.trans s2, sx.mono s2.ext, sxs⟩

theorem reencSeeds_ends (ss : List Seed) (t : Tgt) :
    Ends (StepTo sd sq t fun t' ss' => All2 (SameSeed sd sq t') ss ss') (QWf sq) (reencSeeds sd sq ss t) := by
  induction ss generalizing t with
  | nil => exact .ok fun hT hC => ⟨.refl hT hC, trivial⟩
  | cons s rest ih =>
    rw [reencSeeds]
    split
    next h1 => exact .err ((reencTriple_ends _ t).of_err h1)
    next t1 c' h1 =>
    split
    next h2 => exact .err ((ih t1).of_err h2)
    next t2 xs h2 =>
    refine .ok fun hT hC => ?_
    obtain ⟨s1, sx⟩ := (reencTriple_ends _ t).of_ok h1 hT hC
    obtain ⟨s2, sxs⟩ := (ih t1).of_ok h2 s1.inv s1.cache
    exact ⟨s1.trans s2, ⟨sx.mono s2.ext, rfl⟩, sxs⟩

end translate

theorem mem_insL {α} [DecidableEq α] (l : List α) (a b : α) : b ∈ insL l a ↔ b ∈ l ∨ b = a := by
  unfold insL
  by_cases h : a ∈ l
  · rw [if_pos h]; exact ⟨.inl, fun h' => h'.elim id (· ▸ h)⟩
  · rw [if_neg h, List.mem_append, List.mem_singleton]

theorem mem_insertQuad_graphs (db : DB) (qd : QuadI) (g : Nat) :
    g ∈ (db.insertQuad qd).graphs ↔ g ∈ db.graphs ∨ qd.g = some g := by
  unfold DB.insertQuad
  cases qd.g with
  | none => simp
  | some g' => simp [mem_insL, eq_comm]

theorem foldl_createGraph (gs : List Nat) (db : DB) :
    (∀ g, g ∈ (gs.foldl DB.createGraph db).graphs ↔ g ∈ db.graphs ∨ g ∈ gs) ∧
    (gs.foldl DB.createGraph db).quads = db.quads := by
  induction gs generalizing db with
  | nil => simp
  | cons x gs ih =>
    obtain ⟨h1, h2⟩ := ih (db.createGraph x)
    exact ⟨fun g => by rw [List.foldl_cons, h1, List.mem_cons, ← or_assoc]; exact or_congr_left (mem_insL ..), h2⟩

theorem foldl_insertQuad (qs : List QuadI) (db : DB) :
    (∀ g, g ∈ (qs.foldl DB.insertQuad db).graphs ↔ g ∈ db.graphs ∨ ∃ qd ∈ qs, qd.g = some g) ∧
    (∀ qd, qd ∈ (qs.foldl DB.insertQuad db).quads ↔ qd ∈ db.quads ∨ qd ∈ qs) := by
  induction qs generalizing db with
  | nil => simp
  | cons x qs ih =>
    obtain ⟨h1, h2⟩ := ih (db.insertQuad x)
    exact ⟨fun g => by rw [List.foldl_cons, h1, mem_insertQuad_graphs]; simp only [List.mem_cons, exists_eq_or_imp, or_assoc],
      fun qd => by rw [List.foldl_cons, h2, List.mem_cons, ← or_assoc]; exact or_congr_left (mem_insL ..)⟩

section putfold
variable {κ : Type} {ν : Type} [BEq κ] [LawfulBEq κ] (ss : List (κ × ν)) {acc : List (κ × ν)}

theorem keys_foldl_put_nodup (h : (keys acc).Nodup) : (keys (ss.foldl (fun acc e => put acc e.1 e.2) acc)).Nodup := by
  induction ss generalizing acc with
  | nil => exact h
  | cons e ss ih => exact ih (keys_put_nodup _ _ h)

variable {ss} {k : κ} {v : ν}

theorem mem_foldl_put_sub (h : (k, v) ∈ ss.foldl (fun acc e => put acc e.1 e.2) acc) :
    (k, v) ∈ ss ∨ ((k, v) ∈ acc ∧ k ∉ keys ss) := by
  induction ss generalizing acc with
  | nil => exact .inr ⟨h, List.not_mem_nil⟩
  | cons e ss ih =>
    rcases ih h with h1 | ⟨h1, h2⟩
    · exact .inl (List.mem_cons_of_mem _ h1)
    · rcases mem_put.1 h1 with ⟨rfl, rfl⟩ | ⟨hm, hne⟩
      · exact .inl (List.mem_cons_self ..)
      · exact .inr ⟨hm, fun hk => (List.mem_cons.1 hk).elim hne h2⟩

theorem mem_foldl_put (hn : (keys ss).Nodup) :
    (k, v) ∈ ss.foldl (fun acc e => put acc e.1 e.2) acc ↔ (k, v) ∈ ss ∨ ((k, v) ∈ acc ∧ k ∉ keys ss) := by
  refine ⟨mem_foldl_put_sub, ?_⟩
  induction ss generalizing acc with
  | nil => exact fun h => h.elim nofun And.left
  | cons e ss ih =>
    have hn := List.nodup_cons.1 hn
    have hin : ∀ {acc'}, (k, v) ∈ acc' → k ∉ keys ss → (k, v) ∈ ss.foldl (fun acc e => put acc e.1 e.2) acc' :=
      fun h1 h2 => ih hn.2 (.inr ⟨h1, h2⟩)
    rintro (h | ⟨h1, h2⟩)
    · rcases List.mem_cons.1 h with rfl | h
      · exact hin (mem_put.2 (.inl ⟨rfl, rfl⟩)) hn.1
      · exact ih hn.2 (.inl h)
    · exact hin (mem_put.2 (.inr ⟨h1, fun e => h2 (e ▸ List.mem_cons_self ..)⟩)) fun hk => h2 (List.mem_cons_of_mem _ hk)

end putfold

def HasDen (db : DB) (id : Nat) : Prop := ∃ τ, Den db.d db.q id τ

/-- what every database populated through the API satisfies (see `build_inv`) -/
structure DBInv (db : DB) : Prop where
  d : DInv db.d
  q : QInv db.q
  wf : QWf db.q
  cq : ∀ id c, db.q.decode id = some c → HasDen db id
  cg : ∀ g ∈ db.graphs, HasDen db g
  cquads : ∀ qd ∈ db.quads, HasDen db qd.s ∧ HasDen db qd.p ∧ HasDen db qd.o ∧ ∀ g, qd.g = some g → HasDen db g
  cseeds : ∀ e ∈ db.seeds, HasDen db e.1.1 ∧ HasDen db e.1.2.1 ∧ HasDen db e.1.2.2
  gq : ∀ qd ∈ db.quads, ∀ g, qd.g = some g → g ∈ db.graphs
  seedKeys : (keys db.seeds).Nodup

def ids (db : DB) : List Nat := keys db.d.i2s ++ keys db.q.i2c

theorem DBInv.tinv {db : DB} (h : DBInv db) (ch : List (Nat × Nat)) : TInv ⟨db.d, db.q, ch⟩ := ⟨h.d, h.q, h.wf, h.cq⟩

theorem mem_ids_of_den {d : Dict} {q : QStore} {x : Nat} {τ : LTerm} (h : Den d q x τ) :
    x ∈ keys d.i2s ++ keys q.i2c := by
  cases h with
  | plain _ hd => exact List.mem_append_left _ (mem_keys_iff.2 ⟨_, hd⟩)
  | quoted _ hd _ _ _ => exact List.mem_append_right _ (mem_keys_iff.2 ⟨_, hd⟩)

theorem TInv.mem_ids {t : Tgt} (hT : TInv t) {x : Nat} : x ∈ keys t.d.i2s ++ keys t.q.i2c ↔ ∃ τ, Den t.d t.q x τ := by
  refine ⟨fun h => ?_, fun h => h.elim fun _ => mem_ids_of_den⟩
  rcases List.mem_append.1 h with h | h
  · obtain ⟨s, hs⟩ := mem_keys_iff.1 h
    exact ⟨_, .plain (isQuoted_lt x (hT.d.below x s hs)) hs⟩
  · obtain ⟨c, hc⟩ := mem_keys_iff.1 h
    exact hT.closed x c hc

theorem mem_insSorted (a x : Nat) (l : List Nat) : x ∈ insSorted a l ↔ x = a ∨ x ∈ l := by
  induction l with
  | nil => simp [insSorted]
  | cons b l ih =>
    rw [insSorted]
    by_cases h : a ≤ b
    · rw [if_pos h, List.mem_cons]
    · rw [if_neg h, List.mem_cons, ih, List.mem_cons, or_left_comm]

theorem mem_sortNat (x : Nat) (l : List Nat) : x ∈ sortNat l ↔ x ∈ l := by
  unfold sortNat
  induction l with
  | nil => exact Iff.rfl
  | cons a l ih => rw [List.foldr_cons, mem_insSorted, ih, List.mem_cons]

structure UnionFacts (a b u : DB) : Prop where
  tinv : TInv ⟨u.d, u.q, []⟩
  keepA : ∀ x τ, Den a.d a.q x τ → Den u.d u.q x τ
  nojunk : ∀ x τ, Den u.d u.q x τ → Den a.d a.q x τ ∨ ∃ i, Den b.d b.q i τ
  allB : ∀ i τ, Den b.d b.q i τ → ∃ x, Den u.d u.q x τ
  graphs : ∃ gs, SameIds b.d b.q ⟨u.d, u.q, []⟩ b.graphs gs ∧ ∃ qs, All2 (SameQuad b.d b.q ⟨u.d, u.q, []⟩) b.quads qs ∧
    (∀ g, g ∈ u.graphs ↔ g ∈ a.graphs ∨ (∃ qd ∈ a.quads, qd.g = some g) ∨ g ∈ gs ∨ ∃ qd ∈ qs, qd.g = some g) ∧
    (∀ qd, qd ∈ u.quads ↔ qd ∈ a.quads ∨ qd ∈ qs)
  seeds : ∃ ss, All2 (SameSeed b.d b.q ⟨u.d, u.q, []⟩) b.seeds ss ∧
    u.seeds = ss.foldl (fun acc e => put acc e.1 e.2) a.seeds

section union
variable {a b u : DB}

variable (a b) in
/-- `union` on success establishes `UnionFacts` (given `self`'s invariant); it never reports the model's own `fuel`
    outcome when `other`'s quoted store is well-founded: every error is an implementation panic -/
theorem union_ends : Ends (fun u => DBInv a → UnionFacts a b u) (QWf b.q) (union a b) := by
  unfold union
  dsimp only
  split
  next h1 => exact .err ((reencList_ends ..).of_err h1)
  next t1 _ h1 =>
  split
  next h2 => exact .err ((reencList_ends ..).of_err h2)
  next t2 _ h2 =>
  split
  next h3 => exact .err ((reencList_ends ..).of_err h3)
  next t3 gs h3 =>
  split
  next h4 => exact .err ((reencQuads_ends ..).of_err h4)
  next t4 qs h4 =>
  split
  next h5 => exact .err ((reencSeeds_ends ..).of_err h5)
  next t5 ss h5 =>
  refine .ok fun ha => ?_
  obtain ⟨s1, m1⟩ := (reencList_ends ..).of_ok h1 (ha.tinv []) nofun
  obtain ⟨s2, m2⟩ := (reencList_ends ..).of_ok h2 s1.inv s1.cache
  obtain ⟨s3, m3⟩ := (reencList_ends ..).of_ok h3 s2.inv s2.cache
  obtain ⟨s4, m4⟩ := (reencQuads_ends ..).of_ok h4 s3.inv s3.cache
  obtain ⟨s5, m5⟩ := (reencSeeds_ends ..).of_ok h5 s4.inv s4.cache
  have S : Step b.d b.q ⟨a.d, a.q, []⟩ t5 := (((s1.trans s2).trans s3).trans s4).trans s5
  -- no relation reads a target's cache: what holds of `t5` holds of `t5` with the cache dropped
  have E45 : Ext t4 ⟨t5.d, t5.q, []⟩ := s5.ext
  have E35 := s4.ext.trans E45
  have E25 := s3.ext.trans E35
  refine ⟨⟨S.inv.d, S.inv.q, S.inv.wf, S.inv.closed⟩, fun x τ hx => S.ext.den hx, S.nojunk, fun i τ hi => ?_, ?_, ?_⟩
  · -- every identifier of `b` was in one of the first two lists
    rcases List.mem_append.1 (mem_ids_of_den hi) with hm | hm
    · obtain ⟨x, _, τ', p1, p2⟩ := m1.fwd i ((mem_sortNat ..).2 hm)
      exact ⟨x, hi.functional p1 ▸ (s2.ext.trans E25).den p2⟩
    · obtain ⟨x, _, τ', p1, p2⟩ := m2.fwd i ((mem_sortNat ..).2 hm)
      exact ⟨x, hi.functional p1 ▸ E25.den p2⟩
  · refine ⟨gs, sameIds_iff.2 (m3.imp fun _ _ hxy => hxy.mono E35), qs, m4.imp fun _ _ hxy => hxy.mono E45,
      fun g => ?_, fun qd => ?_⟩
    · rw [(foldl_insertQuad qs _).1, (foldl_createGraph gs _).1, (foldl_insertQuad a.quads _).1,
        (foldl_createGraph a.graphs _).1]
      simp only [DB.empty, List.not_mem_nil, false_or, or_assoc]
    · rw [(foldl_insertQuad qs _).2, (foldl_createGraph gs _).2, (foldl_insertQuad a.quads _).2,
        (foldl_createGraph a.graphs _).2]
      simp only [DB.empty, List.not_mem_nil, false_or]
  · exact ⟨ss, m5, rfl⟩

theorem union_facts (ha : DBInv a) (h : union a b = .ok u) : UnionFacts a b u := (union_ends a b).of_ok h ha

theorem union_err (hw : QWf b.q) {e : Err} (h : union a b = .error e) : e = .panic := (union_ends a b).of_err h hw

theorem union_inv (ha : DBInv a) (h : union a b = .ok u) : DBInv u := by
  have F := union_facts ha h
  obtain ⟨gs, mgs, qs, mqs, hgraphs, hquads⟩ := F.graphs
  obtain ⟨ss, mss, hseeds⟩ := F.seeds
  have up : ∀ x, HasDen a x → HasDen u x := fun x => Exists.imp (F.keepA x)
  have quadOK : ∀ qd ∈ u.quads, HasDen u qd.s ∧ HasDen u qd.p ∧ HasDen u qd.o ∧ ∀ g, qd.g = some g → HasDen u g := by
    intro qd hqd
    rcases (hquads qd).1 hqd with h1 | h1
    · obtain ⟨x, y, z, w⟩ := ha.cquads qd h1
      exact ⟨up _ x, up _ y, up _ z, fun g hg => up _ (w g hg)⟩
    · obtain ⟨qd0, _, s1, s2, s3, s4⟩ := mqs.bwd qd h1
      refine ⟨s1.tgt, s2.tgt, s3.tgt, fun g hg => ?_⟩
      cases hg0 : qd0.g with
      | none => simp [hg0, hg] at s4
      | some i => simp only [hg0, hg] at s4; exact s4.tgt
  refine ⟨F.tinv.d, F.tinv.q, F.tinv.wf, F.tinv.closed, fun g hg => ?_, quadOK, fun e he => ?_,
    fun qd hqd g hg => ?_, hseeds ▸ keys_foldl_put_nodup ss ha.seedKeys⟩
  · rcases (hgraphs g).1 hg with h1 | ⟨qd, hqd, hqg⟩ | h1 | ⟨qd', hqd', hqg⟩
    · exact up g (ha.cg g h1)
    · exact up g (ha.cg g (ha.gq qd hqd g hqg))
    · obtain ⟨i, _, hs⟩ := (sameIds_iff.1 mgs).bwd g h1
      exact hs.tgt
    · exact (quadOK qd' ((hquads qd').2 (.inr hqd'))).2.2.2 g hqg
  · rcases mem_foldl_put_sub (hseeds ▸ he : (e.1, e.2) ∈ _) with h1 | ⟨h1, _⟩
    · obtain ⟨_, _, ⟨s1, s2, s3⟩, _⟩ := mss.bwd e h1
      exact ⟨s1.tgt, s2.tgt, s3.tgt⟩
    · obtain ⟨x, y, z⟩ := ha.cseeds e h1
      exact ⟨up _ x, up _ y, up _ z⟩
  · rcases (hquads qd).1 hqd with h1 | h1
    · exact (hgraphs g).2 (.inr (.inl ⟨qd, h1, hg⟩))
    · exact (hgraphs g).2 (.inr (.inr (.inr ⟨qd, h1, hg⟩)))

end union

theorem den_eq_of_den {x y : DB} (hx : QWf x.q) (hy : QWf y.q) {i j : Nat} {τ : LTerm}
    (h1 : Den x.d x.q i τ) (h2 : Den y.d y.q j τ) : x.den i = y.den j := by
  rw [(den_iff x hx i τ).2 h1, (den_iff y hy j τ).2 h2]

section sameDen
variable {x y : DB} {ch : List (Nat × Nat)} (hx : QWf x.q) (hy : QWf y.q)
include hx hy

theorem SameId.den_eq {i j : Nat} (h : SameId x.d x.q ⟨y.d, y.q, ch⟩ i j) : y.den j = x.den i :=
  h.elim fun _ p => den_eq_of_den hy hx p.2 p.1

theorem SameTriple.den_eq {c c' : Comp} (h : SameTriple x.d x.q ⟨y.d, y.q, ch⟩ c c') :
    y.denTriple c' = x.denTriple c := by
  rw [DB.denTriple, DB.denTriple, h.1.den_eq hx hy, h.2.1.den_eq hx hy, h.2.2.den_eq hx hy]

theorem SameQuad.den_eq {qd qd' : QuadI} (h : SameQuad x.d x.q ⟨y.d, y.q, ch⟩ qd qd') :
    y.denQuad qd' = x.denQuad qd := by
  obtain ⟨h1, h2, h3, h4⟩ := h
  rw [DB.denQuad, DB.denQuad, h1.den_eq hx hy, h2.den_eq hx hy, h3.den_eq hx hy]
  cases hg : qd.g <;> cases hg' : qd'.g <;> simp only [hg, hg'] at h4 ⊢
  · rfl
  · rw [Option.map_some, Option.map_some, h4.den_eq hx hy]

end sameDen

section denInj
variable {db : DB} (hd : DInv db.d) (hq : QInv db.q) (hw : QWf db.q)
include hd hq hw

theorem den_inj {i j : Nat} (hi : HasDen db i) (e : db.den i = db.den j) : i = j :=
  hi.elim fun τ hτ => hτ.inj hd hq ((den_iff db hw j τ).1 (e ▸ (den_iff db hw i τ).2 hτ))

theorem denTriple_inj {c c' : Comp} (h : HasDen db c.1 ∧ HasDen db c.2.1 ∧ HasDen db c.2.2)
    (e : db.denTriple c = db.denTriple c') : c = c' := by
  rw [DB.denTriple, DB.denTriple, Prod.mk.injEq, Prod.mk.injEq] at e
  exact Prod.ext (den_inj hd hq hw h.1 e.1) (Prod.ext (den_inj hd hq hw h.2.1 e.2.1) (den_inj hd hq hw h.2.2 e.2.2))

end denInj

theorem mem_map_iff_of_cover {α β γ δ : Type} {f : α → δ} {g : β → δ} {h : γ → δ}
    {us : List α} {as : List β} {bs : List γ}
    (hu : ∀ u ∈ us, (∃ a ∈ as, g a = f u) ∨ ∃ b ∈ bs, h b = f u)
    (ha : ∀ a ∈ as, ∃ u ∈ us, f u = g a) (hb : ∀ b ∈ bs, ∃ u ∈ us, f u = h b) (y : δ) :
    y ∈ us.map f ↔ y ∈ as.map g ++ bs.map h := by
  simp only [List.mem_append, List.mem_map]
  constructor
  · rintro ⟨u, hu', rfl⟩
    exact hu u hu'
  · rintro (⟨a, ha', rfl⟩ | ⟨b, hb', rfl⟩)
    · exact ha a ha'
    · exact hb b hb'

theorem mem_lexSeeds (db : DB) (lk : OT × OT × OT) (v : Nat) :
    (lk, v) ∈ db.lex.seeds ↔ ∃ k, (k, v) ∈ db.seeds ∧ db.denTriple k = lk := by
  simp only [DB.lex, List.mem_map, Prod.mk.injEq]
  constructor
  · rintro ⟨⟨k, w⟩, hm, e1, rfl⟩
    exact ⟨k, hm, e1⟩
  · rintro ⟨k, hm, e⟩; exact ⟨(k, v), hm, e, rfl⟩

theorem mem_lunion_seeds (x y : LDB) (lk : OT × OT × OT) (v : Nat) :
    (lk, v) ∈ (lunion x y).seeds ↔
      ((lk, v) ∈ x.seeds ∧ ¬ (y.seeds.any (fun f => f.1 == lk)) = true) ∨ (lk, v) ∈ y.seeds := by
  simp only [lunion, List.mem_append, List.mem_filter, Bool.not_eq_eq_eq_not, Bool.not_true, Bool.eq_false_iff,
    ne_eq]

/-- the seeds of the lexical union, in terms of the two databases: `lunion` lets `b` override `a` -/
theorem mem_lunion_lexSeeds (a b : DB) (lk : OT × OT × OT) (v : Nat) :
    (lk, v) ∈ (lunion a.lex b.lex).seeds ↔
      ((∃ k, (k, v) ∈ a.seeds ∧ a.denTriple k = lk) ∧ ¬ ∃ c w, (c, w) ∈ b.seeds ∧ b.denTriple c = lk) ∨
        ∃ c, (c, v) ∈ b.seeds ∧ b.denTriple c = lk := by
  have any : (b.lex.seeds.any (fun f => f.1 == lk)) = true ↔ ∃ c w, (c, w) ∈ b.seeds ∧ b.denTriple c = lk := by
    simp only [List.any_eq_true, beq_iff_eq]
    constructor
    · rintro ⟨⟨lk', w⟩, hm, rfl⟩
      obtain ⟨k, hk, e⟩ := (mem_lexSeeds b lk' w).1 hm
      exact ⟨k, w, hk, e⟩
    · rintro ⟨c, w, hm, e⟩
      exact ⟨(lk, w), (mem_lexSeeds b lk w).2 ⟨c, hm, e⟩, rfl⟩
  rw [mem_lunion_seeds, any, mem_lexSeeds, mem_lexSeeds]

/-- The same union on the identifier side, over variables: `as` overridden (`HashMap::insert`) by `ss`, the re-keyed
    `bs`, and read through `fu`, is `as` read through `fa` where no key of `bs` reads the same through `fb`, plus
    `bs` read through `fb` — provided re-keying preserves the reading and `fu` tells the keys of `ss` from those of `as`. -/
theorem mem_foldl_put_rekeyed {κ δ ν : Type} [BEq κ] [LawfulBEq κ] {as bs ss : List (κ × ν)} {fu fa fb : κ → δ}
    (hss : (keys ss).Nodup) (m : All2 (fun e e' => fu e'.1 = fb e.1 ∧ e.2 = e'.2) bs ss)
    (keep : ∀ k v, (k, v) ∈ as → fu k = fa k)
    (inj : ∀ k' w k v, (k', w) ∈ ss → (k, v) ∈ as → fu k' = fu k → k' = k) (lk : δ) (v : ν) :
    (∃ k, (k, v) ∈ ss.foldl (fun acc e => put acc e.1 e.2) as ∧ fu k = lk) ↔
      ((∃ k, (k, v) ∈ as ∧ fa k = lk) ∧ ¬ ∃ c w, (c, w) ∈ bs ∧ fb c = lk) ∨ ∃ c, (c, v) ∈ bs ∧ fb c = lk := by
  constructor
  · rintro ⟨k, hm, rfl⟩
    rcases (mem_foldl_put hss).1 hm with h1 | ⟨h1, h2⟩
    · obtain ⟨⟨c, w⟩, hc, e, (rfl : w = v)⟩ := m.bwd (k, v) h1
      exact .inr ⟨c, hc, e.symm⟩
    · refine .inl ⟨⟨k, h1, (keep k v h1).symm⟩, fun ⟨c, w, hc, e⟩ => ?_⟩
      obtain ⟨c', hc', e', _⟩ := m.fwd (c, w) hc
      -- `c'.1` and `k` read alike through `fu`, so they are one key, which `ss` then holds
      exact h2 (inj c'.1 c'.2 k v hc' h1 (e'.trans e) ▸ List.mem_map.2 ⟨c', hc', rfl⟩)
  · rintro (⟨⟨k, hk, e⟩, hno⟩ | ⟨c, hc, e⟩)
    · refine ⟨k, (mem_foldl_put hss).2 (.inr ⟨hk, fun hin => ?_⟩), (keep k v hk).trans e⟩
      obtain ⟨kw, hkw, ek⟩ := List.mem_map.1 hin
      obtain ⟨c, hc, e', _⟩ := m.bwd kw hkw
      exact hno ⟨c.1, c.2, hc, e'.symm.trans ((congrArg fu ek).trans ((keep k v hk).trans e))⟩
    · obtain ⟨⟨c', w⟩, hc', e', (rfl : v = w)⟩ := m.fwd (c, v) hc
      exact ⟨c', (mem_foldl_put hss).2 (.inl hc'), e'.trans e⟩

section fa
variable {κ : Type} [BEq κ] [LawfulBEq κ]

omit [LawfulBEq κ] in
theorem idxOf?_append (k x : κ) (l : List κ) :
    idxOf? k (l ++ [x]) = match idxOf? k l with
      | some n => some n
      | none => if x == k then some l.length else none := by
  induction l with
  | nil => rfl
  | cons b l ih =>
    rw [List.cons_append, idxOf?, idxOf?, ih]
    by_cases hb : b == k
    · rw [if_pos hb, if_pos hb]
    · rw [if_neg hb, if_neg hb]
      cases idxOf? k l with
      | some n => rfl
      | none => by_cases hx : x == k <;> simp [hx]

omit [BEq κ] [LawfulBEq κ] in
theorem FA.decode_append (a : FA κ) (k : κ) (i : Nat) :
    FA.decode ⟨a.base, a.items ++ [k]⟩ i = if i = a.base + a.items.length then some k else a.decode i := by
  unfold FA.decode
  by_cases hb : a.base ≤ i
  · obtain ⟨j, rfl⟩ := Nat.exists_eq_add_of_le hb
    rw [if_pos hb, if_pos hb, Nat.add_sub_cancel_left]
    rcases Nat.lt_trichotomy j a.items.length with hl | rfl | hl
    · rw [List.getElem?_append_left hl, if_neg fun e => Nat.ne_of_lt hl (Nat.add_left_cancel e)]
    · rw [if_pos rfl, List.getElem?_concat_length]
    · rw [if_neg fun e => Nat.ne_of_gt hl (Nat.add_left_cancel e), List.getElem?_eq_none (Nat.le_of_lt hl),
        List.getElem?_eq_none (by rw [List.length_append]; exact hl)]
  · rw [if_neg hb, if_neg hb, if_neg fun e : i = a.base + a.items.length => hb (e ▸ Nat.le_add_right ..)]

/-- the two maps and the counter hold exactly the first-appearance list -/
structure FRel (fwd : List (κ × Nat)) (bwd : List (Nat × κ)) (next : Nat) (a : FA κ) : Prop where
  next_eq : next = a.base + a.items.length
  fwd_eq : ∀ k, fwd.lookup k = (idxOf? k a.items).map (a.base + ·)
  bwd_eq : ∀ i, bwd.lookup i = a.decode i

omit [LawfulBEq κ] in
theorem FRel.empty (n : Nat) : FRel ([] : List (κ × Nat)) [] n ⟨n, []⟩ :=
  ⟨rfl, fun _ => rfl, fun i => by simp [FA.decode]⟩

variable {fwd : List (κ × Nat)} {bwd : List (Nat × κ)} {n : Nat} {a : FA κ} (h : FRel fwd bwd n a) {k : κ}
include h

theorem FRel.put (hk : fwd.lookup k = none) : FRel (put fwd k n) (put bwd n k) (n + 1) ⟨a.base, a.items ++ [k]⟩ := by
  have hx : idxOf? k a.items = none := by simpa [hk] using (h.fwd_eq k).symm
  refine ⟨by rw [h.next_eq, List.length_append]; rfl, fun k' => ?_, fun i => ?_⟩
  · rw [idxOf?_append]
    by_cases e : k' = k
    · rw [e, lookup_put_self, hx, if_pos BEq.rfl, h.next_eq]; rfl
    · rw [lookup_put_of_ne _ _ e, h.fwd_eq k']
      cases idxOf? k' a.items with
      | some m => rfl
      | none => rw [if_neg (by simpa using Ne.symm e)]
  · rw [FA.decode_append, ← h.next_eq]
    by_cases e : i = n
    · rw [e, lookup_put_self, if_pos rfl]
    · rw [lookup_put_of_ne _ _ e, if_neg e, h.bwd_eq i]

omit [LawfulBEq κ] in
/-- one `encode` on the first-appearance list is `Dictionary::encode`'s own case analysis on the lock-step maps -/
theorem FRel.encode_eq (limit : Nat) (k : κ) :
    a.encode limit k = match fwd.lookup k with
      | some i => .ok (a, i)
      | none => if n < limit then .ok (⟨a.base, a.items ++ [k]⟩, n) else .error .panic := by
  rw [FA.encode, h.fwd_eq k, h.next_eq]
  cases idxOf? k a.items <;> rfl

end fa

/-- the dictionary and the quoted store together refine `Abs` -/
structure ARel (st : Dict × QStore) (a : Abs) : Prop where
  d : FRel st.1.s2i st.1.i2s st.1.next a.strs
  q : FRel st.2.c2i st.2.i2c st.2.next a.comps

theorem step_refines (st : Dict × QStore) (a : Abs) (h : ARel st a) (op : SOp) :
    (mStep st op).2 = (aStep a op).2 ∧ ARel (mStep st op).1 (aStep a op).1 := by
  obtain ⟨d, q⟩ := st
  cases op with
  | enc s =>
    dsimp only [mStep, aStep, Abs.encode]
    rw [h.d.encode_eq]
    rcases d.encode_cases s with ⟨i, hl, e⟩ | ⟨hl, hn, e⟩ | ⟨hl, hn, e⟩
    · rw [e, hl]; exact ⟨rfl, h⟩
    · rw [e, hl, if_pos hn]; exact ⟨rfl, h.d.put hl, h.q⟩
    · rw [e, hl, if_neg hn]; exact ⟨rfl, h⟩
  | dec i => exact ⟨congrArg SOut.str (h.d.bwd_eq i), h⟩
  | qenc c =>
    dsimp only [mStep, aStep, Abs.qencode]
    rw [h.q.encode_eq]
    rcases q.encode_cases c with ⟨i, hl, e⟩ | ⟨hl, hn, e⟩ | ⟨hl, hn, e⟩
    · rw [e, hl]; exact ⟨rfl, h⟩
    · rw [e, hl, if_pos hn]; exact ⟨rfl, h.d, h.q.put hl⟩
    · rw [e, hl, if_neg hn]; exact ⟨rfl, h⟩
  | qdec i => exact ⟨congrArg SOut.comp (h.q.bwd_eq i), h⟩

theorem mRun_eq_aRun {st : Dict × QStore} {a : Abs} (h : ARel st a) (ops : List SOp) : mRun st ops = aRun a ops := by
  induction ops generalizing st a with
  | nil => rfl
  | cons op rest ih =>
    obtain ⟨e, r⟩ := step_refines st a h op
    rw [mRun, aRun, e, ih r]

theorem encRun_spec (d : Dict) (h : DInv d) (ss : List String) :
    DInv (encRun d ss) ∧ (∀ t j, d.s2i.lookup t = some j → (encRun d ss).s2i.lookup t = some j) ∧
    (∀ j t, d.decode j = some t → (encRun d ss).decode j = some t) := by
  induction ss generalizing d with
  | nil => exact ⟨h, fun _ _ x => x, fun _ _ x => x⟩
  | cons s rest ih =>
    rw [encRun]
    cases he : d.encode s with
    | error e => exact ih d h
    | ok r =>
      obtain ⟨h', A, _⟩ := encode_spec h he
      obtain ⟨i1, i2, i3⟩ := ih r.1 h'
      exact ⟨i1, fun t j x => i2 t j (A.keepF t j x), fun j t x => i3 j t (A.keepB j t x)⟩

theorem qRun_spec (q : QStore) (h : QInv q) (cs : List Comp) :
    QInv (qRun q cs) ∧ (∀ t j, q.c2i.lookup t = some j → (qRun q cs).c2i.lookup t = some j) ∧
    (∀ j t, q.decode j = some t → (qRun q cs).decode j = some t) := by
  induction cs generalizing q with
  | nil => exact ⟨h, fun _ _ x => x, fun _ _ x => x⟩
  | cons c rest ih =>
    rw [qRun]
    cases he : q.encode c with
    | error e => exact ih q h
    | ok r =>
      obtain ⟨h', A⟩ := qencode_spec h he
      obtain ⟨i1, i2, i3⟩ := ih r.1 h'
      exact ⟨i1, fun t j x => i2 t j (A.keepF t j x), fun j t x => i3 j t (A.keepB j t x)⟩

theorem qRun_wf (q : QStore) (h : QInv q) (hw : QWf q) (cs : List Comp) (hh : WfHist q cs) : QWf (qRun q cs) := by
  induction cs generalizing q with
  | nil => exact hw
  | cons c rest ih =>
    rw [qRun]
    obtain ⟨nf, hh⟩ := hh
    cases he : q.encode c with
    | error e => rw [he] at hh; exact ih q h hw hh
    | ok r =>
      rw [he] at hh
      exact ih r.1 (qencode_spec h he).1 (qencode_wf h hw he nf.1 nf.2.1 nf.2.2) hh

theorem wf_of_check (q : QStore) (h : q.wf = true) : QWf q := by
  intro id a b c hd
  have := List.all_eq_true.1 h _ (lookup_mem hd)
  simp only [Bool.and_eq_true, Bool.or_eq_true, Bool.not_eq_eq_eq_not, Bool.not_true, decide_eq_true_eq] at this
  obtain ⟨⟨h1, h2⟩, h3⟩ := this
  exact ⟨fun x => h1.resolve_left (by simp [x]), fun x => h2.resolve_left (by simp [x]),
    fun x => h3.resolve_left (by simp [x])⟩

theorem hasDen_of_valid (d : Dict) (q : QStore) (hw : QWf q)
    (hc : ∀ id a b c, q.decode id = some (a, b, c) → validId d q a = true ∧ validId d q b = true ∧ validId d q c = true) :
    ∀ id, validId d q id = true → ∃ τ, Den d q id τ := by
  intro id
  induction id using Nat.strongRecOn with
  | _ id ih =>
    -- a plain id needs no induction; a quoted component is smaller than `id`
    have sub : ∀ x, validId d q x = true → (isQuoted x = true → x < id) → ∃ τ, Den d q x τ := by
      intro x vx wx
      by_cases hx : isQuoted x = true
      · exact ih x (wx hx) vx
      · rw [validId, if_neg hx] at vx
        obtain ⟨s, hs⟩ := Option.isSome_iff_exists.1 vx
        exact ⟨_, .plain (Bool.eq_false_iff.2 hx) hs⟩
    intro hv
    by_cases hq : isQuoted id = true
    · rw [validId, if_pos hq] at hv
      obtain ⟨⟨a, b, c⟩, hd⟩ := Option.isSome_iff_exists.1 hv
      obtain ⟨va, vb, vc⟩ := hc id a b c hd
      obtain ⟨wa, wb, wc⟩ := hw id a b c hd
      obtain ⟨ta, da⟩ := sub a va wa
      obtain ⟨tb, db⟩ := sub b vb wb
      obtain ⟨tc, dc⟩ := sub c vc wc
      exact ⟨_, .quoted hq hd da db dc⟩
    · exact sub id hv (fun h => absurd h hq)

theorem dbInv_of_checks (db : DB) (hd : DInv db.d) (hq : QInv db.q) (hwf : db.q.wf = true) (hcl : db.closed = true)
    (hgq : ∀ qd ∈ db.quads, ∀ g, qd.g = some g → g ∈ db.graphs) (hsk : (keys db.seeds).Nodup) : DBInv db := by
  have W := wf_of_check db.q hwf
  unfold DB.closed at hcl
  simp only [Bool.and_eq_true, List.all_eq_true] at hcl
  obtain ⟨⟨⟨c1, c2⟩, c3⟩, c4⟩ := hcl
  have V := hasDen_of_valid db.d db.q W fun id a b c hdec => by
    simpa [Bool.and_eq_true, and_assoc] using c1 _ (lookup_mem hdec)
  refine ⟨hd, hq, W, fun id c hdec => ?_, fun g hg => V g (c2 g hg), fun qd hqd => ?_, fun e he => ?_, hgq, hsk⟩
  · exact V id (by rw [validId, if_pos (hq.isQuoted hdec).1, hdec]; rfl)
  · obtain ⟨⟨⟨a, b⟩, c⟩, g⟩ := c3 qd hqd
    exact ⟨V _ a, V _ b, V _ c, fun g' hg' => V _ (by rw [hg'] at g; exact g)⟩
  · obtain ⟨⟨a, b⟩, c⟩ := c4 e he
    exact ⟨V _ a, V _ b, V _ c⟩

theorem encodeStar_spec {τ : LTerm} {d d' : Dict} {q q' : QStore} {i : Nat} (h : encodeStar d q τ = .ok (d', q', i))
    (hT : TInv ⟨d, q, []⟩) : TInv ⟨d', q', []⟩ ∧ Ext ⟨d, q, []⟩ ⟨d', q', []⟩ ∧ Den d' q' i τ := by
  induction τ generalizing d q d' q' i with
  | plain s =>
    unfold encodeStar at h
    split at h
    · cases h
    next he =>
    cases h
    have G := hT.encode he []
    exact ⟨G.inv, G.ext, G.den⟩
  | quoted s p o ihs ihp iho =>
    unfold encodeStar at h
    split at h
    · cases h
    next h1 =>
    obtain ⟨T1, E1, D1⟩ := ihs h1 hT
    split at h
    · cases h
    next h2 =>
    obtain ⟨T2, E2, D2⟩ := ihp h2 T1
    split at h
    · cases h
    next h3 =>
    obtain ⟨T3, E3, D3⟩ := iho h3 T2
    split at h
    · cases h
    next h4 =>
    cases h
    have G := T3.qencode h4 (E3.den (E2.den D1)) (E3.den D2) D3 []
    exact ⟨G.inv, ((E1.trans E2).trans E3).trans G.ext, G.den⟩

theorem enc3_spec {d d' : Dict} {s p o : String} {c : Comp} (q : QStore) (h : enc3 d s p o = .ok (d', c))
    (hT : TInv ⟨d, q, []⟩) :
    TInv ⟨d', q, []⟩ ∧ Ext ⟨d, q, []⟩ ⟨d', q, []⟩ ∧
      Den d' q c.1 (.plain s) ∧ Den d' q c.2.1 (.plain p) ∧ Den d' q c.2.2 (.plain o) := by
  unfold enc3 at h
  split at h
  · cases h
  next h1 =>
  have G1 := hT.encode h1 []
  split at h
  · cases h
  next h2 =>
  have G2 := G1.inv.encode h2 []
  split at h
  · cases h
  next h3 =>
  cases h
  have G3 := G2.inv.encode h3 []
  exact ⟨G3.inv, (G1.ext.trans G2.ext).trans G3.ext, G3.ext.den (G2.ext.den G1.den), G3.ext.den G2.den, G3.den⟩

/-- the identifiers a raw (id-level) API call mentions all decode; the string/term-level calls need nothing -/
def OpOK (db : DB) : BOp → Prop
  | .qenc c => HasDen db c.1 ∧ HasDen db c.2.1 ∧ HasDen db c.2.2
  | .quad qd => HasDen db qd.s ∧ HasDen db qd.p ∧ HasDen db qd.o ∧ ∀ g, qd.g = some g → HasDen db g
  | .create g => HasDen db g
  | .seed c _ => HasDen db c.1 ∧ HasDen db c.2.1 ∧ HasDen db c.2.2
  | _ => True

/-- a build script in which every raw call is `OpOK` at the time it is made -/
def OpsOK (db : DB) : List BOp → Prop
  | [] => True
  | op :: rest => OpOK db op ∧ ∀ db', db.step op = .ok db' → OpsOK db' rest

theorem DBInv.start (n : Nat) : DBInv { DB.empty with d := ⟨[], [], n⟩ } :=
  dbInv_of_checks _ (DInv.start n) (QInv.start _ (Nat.le_refl _) (Nat.le_of_lt quotedBit_lt_u32Max)) rfl rfl nofun
    .nil

section dbinv
variable {db : DB} (h : DBInv db)
include h

theorem DBInv.grow {d' : Dict} {q' : QStore} (T : TInv ⟨d', q', []⟩) (E : Ext ⟨db.d, db.q, []⟩ ⟨d', q', []⟩) :
    DBInv { db with d := d', q := q' } := by
  have up : ∀ x, HasDen db x → HasDen { db with d := d', q := q' } x := fun _ => Exists.imp fun _ => E.den
  refine ⟨T.d, T.q, T.wf, T.closed, fun g hg => up g (h.cg g hg), fun qd hqd => ?_, fun e he => ?_, h.gq, h.seedKeys⟩
  · obtain ⟨a, b, c, e⟩ := h.cquads qd hqd
    exact ⟨up _ a, up _ b, up _ c, fun g hg => up _ (e g hg)⟩
  · obtain ⟨a, b, c⟩ := h.cseeds e he
    exact ⟨up _ a, up _ b, up _ c⟩

theorem DBInv.createGraph (g : Nat) (ok : HasDen db g) : DBInv (db.createGraph g) := by
  refine ⟨h.d, h.q, h.wf, h.cq, fun x hx => ?_, h.cquads, h.cseeds, fun x hx g' hg' => ?_, h.seedKeys⟩
  · rcases (mem_insL ..).1 hx with hx | rfl
    · exact h.cg x hx
    · exact ok
  · exact (mem_insL ..).2 (.inl (h.gq x hx g' hg'))

theorem DBInv.insertQuad (qd : QuadI)
    (ok : HasDen db qd.s ∧ HasDen db qd.p ∧ HasDen db qd.o ∧ ∀ g, qd.g = some g → HasDen db g) :
    DBInv (db.insertQuad qd) := by
  refine ⟨h.d, h.q, h.wf, h.cq, fun g hg => ?_, fun x hx => ?_, h.cseeds, fun x hx g hg => ?_, h.seedKeys⟩
  · rcases (mem_insertQuad_graphs ..).1 hg with hg | hg
    · exact h.cg g hg
    · exact ok.2.2.2 g hg
  · rcases (mem_insL ..).1 hx with hx | rfl
    · exact h.cquads x hx
    · exact ok
  · rcases (mem_insL ..).1 hx with hx | rfl
    · exact (mem_insertQuad_graphs ..).2 (.inl (h.gq x hx g hg))
    · exact (mem_insertQuad_graphs ..).2 (.inr hg)

theorem DBInv.setSeed (c : Comp) (p : Nat) (ok : HasDen db c.1 ∧ HasDen db c.2.1 ∧ HasDen db c.2.2) :
    DBInv (db.setSeed c p) := by
  refine ⟨h.d, h.q, h.wf, h.cq, h.cg, h.cquads, fun e he => ?_, h.gq, keys_put_nodup _ _ h.seedKeys⟩
  rcases (mem_put (k' := e.1) (v' := e.2)).1 he with ⟨e1, _⟩ | ⟨hm, _⟩
  · exact e1 ▸ ok
  · exact h.cseeds _ hm

theorem step_inv {db' : DB} {op : BOp} (ok : OpOK db op) (hs : db.step op = .ok db') : DBInv db' := by
  have T0 := h.tinv []
  unfold DB.step at hs
  split at hs
  next s =>  -- `.enc`
    split at hs
    next he => cases hs; have G := T0.encode he []; exact h.grow G.inv G.ext
    · cases hs
  next c =>  -- `.qenc`
    split at hs
    next he =>
      cases hs
      obtain ⟨⟨ta, da⟩, ⟨tb, db_⟩, ⟨tc, dc⟩⟩ := ok
      have G := T0.qencode he da db_ dc []
      exact h.grow G.inv G.ext
    · cases hs
  next t =>  -- `.star`
    split at hs
    next he => cases hs; obtain ⟨T, E, _⟩ := encodeStar_spec he T0; exact h.grow T E
    · cases hs
  next qd => cases hs; exact h.insertQuad qd ok  -- `.quad`
  next g => cases hs; exact h.createGraph g ok  -- `.create`
  next c p => cases hs; exact h.setSeed c p ok  -- `.seed`
  next s p o =>  -- `.triple`
    split at hs
    next he =>
      cases hs
      obtain ⟨T, E, a, b, c⟩ := enc3_spec db.q he T0
      exact (h.grow T E).insertQuad _ ⟨⟨_, a⟩, ⟨_, b⟩, ⟨_, c⟩, fun _ hg => by cases hg⟩
    · cases hs
  next s p o pr =>  -- `.tagged`
    split at hs
    next he =>
      cases hs
      obtain ⟨T, E, a, b, c⟩ := enc3_spec db.q he T0
      exact ((h.grow T E).insertQuad _ ⟨⟨_, a⟩, ⟨_, b⟩, ⟨_, c⟩, fun _ hg => by cases hg⟩).setSeed _ pr
        ⟨⟨_, a⟩, ⟨_, b⟩, ⟨_, c⟩⟩
    · cases hs
  next s p o g =>  -- `.quadParts`
    split at hs
    · cases hs
    next h1 =>
    obtain ⟨T1, E1, D1⟩ := encodeStar_spec h1 T0
    split at hs
    · cases hs
    next h2 =>
    obtain ⟨T2, E2, D2⟩ := encodeStar_spec h2 T1
    split at hs
    · cases hs
    next h3 =>
    obtain ⟨T3, E3, D3⟩ := encodeStar_spec h3 T2
    split at hs
    · cases hs
    next h4 =>
    cases hs
    have G := T3.encode h4 []
    exact (h.grow G.inv (((E1.trans E2).trans E3).trans G.ext)).insertQuad _
      ⟨⟨_, G.ext.den (E3.den (E2.den D1))⟩, ⟨_, G.ext.den (E3.den D2)⟩, ⟨_, G.ext.den D3⟩,
        fun g' hg' => Option.some.inj hg' ▸ ⟨_, G.den⟩⟩

end dbinv

theorem build_inv {ops : List BOp} {db db' : DB} (h : DBInv db) (ok : OpsOK db ops) (hb : DB.build ops db = .ok db') :
    DBInv db' := by
  induction ops generalizing db with
  | nil => cases hb; exact h
  | cons op rest ih =>
    rw [DB.build] at hb
    split at hb
    next db1 hs => exact ih (step_inv h ok.1 hs) (ok.2 db1 hs) hb
    · cases hb

end Kolibrie.Dict
