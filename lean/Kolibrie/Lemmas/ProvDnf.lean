import Kolibrie.Model.Prov
import Kolibrie.Spec.Prov
/-
The DNF tags of `DnfWmcProvenance`: `dnfDisj` / `dnfConj` / `dnfNeg` denote or / and / not under `evalDnf` (the prunings
`removeSubsumed` and `removeContradictory` keep the meaning), and `shannon` is the weighted sum over all worlds.
-/
namespace Kolibrie.Prov

theorem insertBy_perm {α} (le : α → α → Bool) (a : α) : ∀ l : List α, (insertBy le a l).Perm (a :: l)
  | [] => List.Perm.refl _
  | b :: t => by
    rw [insertBy]
    by_cases h : le a b = true
    · rw [if_pos h]
    · rw [if_neg h]; exact (List.Perm.cons b (insertBy_perm le a t)).trans (List.Perm.swap a b t)

theorem sortBy'_perm {α} (le : α → α → Bool) : ∀ l : List α, (sortBy' le l).Perm l
  | [] => List.Perm.refl _
  | a :: t => (insertBy_perm le a _).trans (List.Perm.cons a (sortBy'_perm le t))

theorem mem_sortBy' {α} (le : α → α → Bool) (l : List α) (x : α) : x ∈ sortBy' le l ↔ x ∈ l :=
  (sortBy'_perm le l).mem_iff

/-! ### literals: every literal is `mkLit v b`, and `litFlip` flips `b` -/

theorem mkLit_var (x : Nat) (b : Bool) : litVar (mkLit x b) = x := by
  rw [mkLit, litVar, Nat.mul_add_div (by decide)]
  cases b <;> rfl

theorem mkLit_pol (x : Nat) (b : Bool) : litPol (mkLit x b) = b := by
  rw [mkLit, litPol, Nat.mul_add_mod]
  cases b <;> rfl

theorem lit_eq_mkLit (l : Nat) : l = mkLit (litVar l) (litPol l) := by
  have h := Nat.div_add_mod l 2
  rw [mkLit, litVar, litPol]
  rcases Nat.mod_two_eq_zero_or_one l with h0 | h1
  · rw [h0] at h ⊢; exact h.symm
  · rw [h1] at h ⊢; exact h.symm

theorem litFlip_mkLit (x : Nat) (b : Bool) : litFlip (mkLit x b) = mkLit x (!b) := by
  rw [litFlip, ← litPol, mkLit_pol]
  cases b <;> rfl

theorem litFlip_var (l : Nat) : litVar (litFlip l) = litVar l := by
  obtain ⟨x, b, rfl⟩ : ∃ x b, l = mkLit x b := ⟨_, _, lit_eq_mkLit l⟩
  rw [litFlip_mkLit, mkLit_var, mkLit_var]

theorem litFlip_pol (l : Nat) : litPol (litFlip l) = !litPol l := by
  obtain ⟨x, b, rfl⟩ : ∃ x b, l = mkLit x b := ⟨_, _, lit_eq_mkLit l⟩
  rw [litFlip_mkLit, mkLit_pol, mkLit_pol]

theorem lit_flip (w : Nat → Bool) (l : Nat) :
    (w (litVar (litFlip l)) == litPol (litFlip l)) = !(w (litVar l) == litPol l) := by
  rw [litFlip_var, litFlip_pol]
  cases w (litVar l) <;> cases litPol l <;> rfl

theorem csub_iff {a b : Clause} : csub a b = true ↔ ∀ l ∈ a, l ∈ b := by
  simp only [csub, List.all_eq_true, List.contains_iff_mem]

theorem csub_refl (c : Clause) : csub c c = true := csub_iff.mpr fun _ h => h

theorem csub_trans {a b c : Clause} (h1 : csub a b = true) (h2 : csub b c = true) : csub a c = true :=
  csub_iff.mpr fun l hl => csub_iff.mp h2 l (csub_iff.mp h1 l hl)

theorem ceq_iff {a b : Clause} : ceq a b = true ↔ csub a b = true ∧ csub b a = true := by
  rw [ceq, Bool.and_eq_true]

theorem ceq_refl (a : Clause) : ceq a a = true := ceq_iff.mpr ⟨csub_refl a, csub_refl a⟩

theorem evalClause_iff {w : Nat → Bool} {c : Clause} :
    evalClause w c = true ↔ ∀ l ∈ c, w (litVar l) = litPol l := by
  simp only [evalClause, List.all_eq_true, beq_iff_eq]

theorem evalClause_mono {w : Nat → Bool} {a b : Clause} (h : csub a b = true) (hb : evalClause w b = true) :
    evalClause w a = true :=
  evalClause_iff.mpr fun l hl => evalClause_iff.mp hb l (csub_iff.mp h l hl)

theorem evalClause_ceq {w : Nat → Bool} {a b : Clause} (h : ceq a b = true) :
    evalClause w a = evalClause w b :=
  Bool.eq_iff_iff.mpr ⟨evalClause_mono (ceq_iff.mp h).2, evalClause_mono (ceq_iff.mp h).1⟩

theorem mem_cunion {a b : Clause} {l : Nat} : l ∈ cunion a b ↔ l ∈ a ∨ l ∈ b := by
  rw [cunion, mem_sortBy', List.mem_eraseDups, List.mem_append]

theorem evalClause_cunion {w : Nat → Bool} {a b : Clause} :
    evalClause w (cunion a b) = true ↔ evalClause w a = true ∧ evalClause w b = true := by
  simp only [evalClause_iff, mem_cunion, or_imp, forall_and]

theorem evalClause_contradictory {w : Nat → Bool} {c : Clause} (h : contradictory c = true) :
    evalClause w c = false := by
  simp only [contradictory, List.any_eq_true, List.contains_iff_mem] at h
  obtain ⟨l, hl, hf⟩ := h
  apply Bool.eq_false_iff.mpr
  intro he
  rw [evalClause, List.all_eq_true] at he
  have h2 := he _ hf
  rw [lit_flip, he l hl] at h2
  cases h2

theorem evalDnf_iff {w : Nat → Bool} {φ : Dnf} : evalDnf w φ = true ↔ ∃ c ∈ φ, evalClause w c = true := by
  rw [evalDnf, List.any_eq_true]

theorem evalDnf_nil (w : Nat → Bool) : evalDnf w [] = false := rfl

theorem evalDnf_cons (w : Nat → Bool) (c : Clause) (φ : Dnf) :
    evalDnf w (c :: φ) = (evalClause w c || evalDnf w φ) := rfl

theorem evalDnf_one (w : Nat → Bool) : evalDnf w dnfOne = true := rfl

theorem evalDnf_of_nil_mem {w : Nat → Bool} {φ : Dnf} (h : φ.any (·.isEmpty) = true) : evalDnf w φ = true := by
  obtain ⟨c, hc, he⟩ := List.any_eq_true.mp h
  rw [List.isEmpty_iff.mp he] at hc
  exact evalDnf_iff.mpr ⟨[], hc, rfl⟩

theorem dmem_iff {c : Clause} {φ : Dnf} : dmem c φ = true ↔ ∃ c' ∈ φ, ceq c c' = true := by
  rw [dmem, List.any_eq_true]

theorem evalDnf_dinsert {w : Nat → Bool} {c : Clause} {φ : Dnf} :
    evalDnf w (dinsert c φ) = true ↔ evalClause w c = true ∨ evalDnf w φ = true := by
  unfold dinsert
  by_cases h : dmem c φ = true
  · -- `c` is already there up to `ceq`
    rw [if_pos h]
    obtain ⟨c', hc', he⟩ := dmem_iff.mp h
    exact ⟨Or.inr, fun h => h.elim (fun h => evalDnf_iff.mpr ⟨c', hc', evalClause_ceq he ▸ h⟩) id⟩
  · rw [if_neg h, evalDnf, evalDnf, List.any_append, Bool.or_eq_true, List.any_cons, List.any_nil, Bool.or_false]
    exact Or.comm

theorem evalDnf_foldl_dinsert {w : Nat → Bool} (l : Dnf) (init : Dnf) :
    evalDnf w (l.foldl (fun acc c => dinsert c acc) init) = true ↔ evalDnf w init = true ∨ evalDnf w l = true := by
  induction l generalizing init with
  | nil => exact ⟨Or.inl, fun h => h.elim id (fun h => nomatch h)⟩
  | cons h t ih =>
    rw [List.foldl_cons, ih, evalDnf_dinsert, evalDnf_cons, Bool.or_eq_true]
    exact or_assoc.trans or_left_comm

theorem evalDnf_dunion {w : Nat → Bool} {φ ψ : Dnf} :
    evalDnf w (dunion φ ψ) = true ↔ evalDnf w φ = true ∨ evalDnf w ψ = true := by
  rw [dunion, evalDnf_foldl_dinsert, evalDnf_foldl_dinsert, evalDnf_nil]
  exact or_congr_left (or_iff_right Bool.false_ne_true)

theorem evalDnf_filter {w : Nat → Bool} {φ : Dnf} (p : Clause → Bool)
    (h : ∀ c ∈ φ, evalClause w c = true → ∃ m ∈ φ, p m = true ∧ evalClause w m = true) :
    evalDnf w (φ.filter p) = true ↔ evalDnf w φ = true := by
  simp only [evalDnf_iff, List.mem_filter]
  constructor
  · rintro ⟨c, ⟨hc, _⟩, he⟩; exact ⟨c, hc, he⟩
  · rintro ⟨c, hc, he⟩
    obtain ⟨m, hm, hp, hme⟩ := h c hc he
    exact ⟨m, ⟨hm, hp⟩, hme⟩

/-- below any clause of the list there is a ⊆-minimal clause of the list -/
theorem exists_min_sub : ∀ (φ : Dnf) (c : Clause), (∃ c' ∈ φ, csub c' c = true) →
    ∃ m ∈ φ, csub m c = true ∧ ∀ c2 ∈ φ, csub c2 m = true → csub m c2 = true
  | [], _, ⟨_, h, _⟩ => nomatch h
  | h :: t, c, hex => by
    by_cases ht : ∃ c' ∈ t, csub c' c = true
    · -- a minimal clause of the tail stays minimal unless the head lies strictly below it
      obtain ⟨m, hm, hmc, hmin⟩ := exists_min_sub t c ht
      by_cases hh : csub h m = true ∧ ¬ csub m h = true
      · refine ⟨h, List.mem_cons_self, csub_trans hh.1 hmc, fun c2 hc2 hsub => ?_⟩
        rcases List.mem_cons.mp hc2 with rfl | hc2
        · exact hsub
        · exact absurd (csub_trans (hmin c2 hc2 (csub_trans hsub hh.1)) hsub) hh.2
      · refine ⟨m, List.mem_cons_of_mem _ hm, hmc, fun c2 hc2 hsub => ?_⟩
        rcases List.mem_cons.mp hc2 with rfl | hc2
        · exact Decidable.by_contra fun hm2 => hh ⟨hsub, hm2⟩
        · exact hmin c2 hc2 hsub
    · -- nothing in the tail lies below `c`, so the head does and nothing in the tail lies below the head
      obtain ⟨c', hc', hs⟩ := hex
      have hc' : c' = h := (List.mem_cons.mp hc').resolve_right fun hc' => ht ⟨c', hc', hs⟩
      subst hc'
      refine ⟨c', List.mem_cons_self, hs, fun c2 hc2 hsub => ?_⟩
      rcases List.mem_cons.mp hc2 with rfl | hc2
      · exact hsub
      · exact absurd ⟨c2, hc2, csub_trans hsub hs⟩ ht

theorem evalDnf_removeSubsumed {w : Nat → Bool} {φ : Dnf} :
    evalDnf w (removeSubsumed φ) = true ↔ evalDnf w φ = true := by
  refine evalDnf_filter _ fun c hc he => ?_
  obtain ⟨m, hm, hmc, hmin⟩ := exists_min_sub φ c ⟨c, hc, csub_refl c⟩
  refine ⟨m, hm, ?_, evalClause_mono hmc he⟩
  -- a clause below the minimal `m` is `ceq` to it, so it does not count as subsuming
  rw [Bool.not_eq_true', List.any_eq_false]
  intro c2 hc2 hsub
  rw [Bool.and_eq_true, Bool.not_eq_true'] at hsub
  obtain ⟨hne, hs⟩ := hsub
  rw [ceq, hs, hmin c2 hc2 hs] at hne
  cases hne

theorem evalDnf_removeContradictory {w : Nat → Bool} {φ : Dnf} :
    evalDnf w (removeContradictory φ) = true ↔ evalDnf w φ = true :=
  evalDnf_filter _ fun c hc he => by
    refine ⟨c, hc, ?_, he⟩
    cases hcon : contradictory c
    · rfl
    · rw [evalClause_contradictory hcon] at he; cases he

theorem evalDnf_product {w : Nat → Bool} {a b : Dnf} :
    evalDnf w (product a b) = true ↔ evalDnf w a = true ∧ evalDnf w b = true := by
  simp only [evalDnf_iff, product, List.mem_flatMap, List.mem_map]
  constructor
  · rintro ⟨c, ⟨ca, hca, cb, hcb, rfl⟩, he⟩
    rw [evalClause_cunion] at he
    exact ⟨⟨ca, hca, he.1⟩, ⟨cb, hcb, he.2⟩⟩
  · rintro ⟨⟨ca, hca, ha⟩, ⟨cb, hcb, hb⟩⟩
    exact ⟨cunion ca cb, ⟨ca, hca, cb, hcb, rfl⟩, evalClause_cunion.mpr ⟨ha, hb⟩⟩

theorem evalDnf_disj (w : Nat → Bool) (a b : Dnf) :
    evalDnf w (dnfDisj a b) = (evalDnf w a || evalDnf w b) := by
  rw [Bool.eq_iff_iff, Bool.or_eq_true, dnfDisj, evalDnf_removeSubsumed, evalDnf_dunion]

theorem evalDnf_conj (w : Nat → Bool) (a b : Dnf) :
    evalDnf w (dnfConj a b) = (evalDnf w a && evalDnf w b) := by
  unfold dnfConj
  by_cases h : (a.isEmpty || b.isEmpty) = true
  · rw [if_pos h]
    rcases (Bool.or_eq_true _ _).mp h with h | h <;> rw [List.isEmpty_iff.mp h]
    · rfl
    · exact (Bool.and_false _).symm
  · rw [if_neg h, Bool.eq_iff_iff, Bool.and_eq_true, evalDnf_removeSubsumed, evalDnf_removeContradictory,
      evalDnf_dunion, evalDnf_product, evalDnf_nil]
    exact or_iff_left Bool.false_ne_true

theorem evalDnf_negClause (w : Nat → Bool) (c : Clause) :
    evalDnf w (c.map fun l => [litFlip l]) = !evalClause w c := by
  simp only [evalDnf, evalClause, List.any_map, Function.comp_def, List.all_cons, List.all_nil, Bool.and_true,
    lit_flip, List.not_all_eq_any_not]

theorem evalDnf_negFold (w : Nat → Bool) (a : Dnf) (res : Dnf) :
    evalDnf w (a.foldl (fun res clause => if res.isEmpty then res else
        dnfConj res (clause.map fun l => [litFlip l])) res)
      = (evalDnf w res && a.all fun c => !evalClause w c) := by
  induction a generalizing res with
  | nil => exact (Bool.and_true _).symm
  | cons h t ih =>
    rw [List.foldl_cons, ih, List.all_cons, ← Bool.and_assoc]
    congr 1
    by_cases he : res.isEmpty = true
    · rw [if_pos he, List.isEmpty_iff.mp he]; rfl
    · rw [if_neg he, evalDnf_conj, evalDnf_negClause]

theorem evalDnf_neg (w : Nat → Bool) (a : Dnf) : evalDnf w (dnfNeg a) = !evalDnf w a := by
  unfold dnfNeg
  by_cases he : a.isEmpty = true
  · rw [if_pos he, List.isEmpty_iff.mp he]; rfl
  · rw [if_neg he]
    by_cases hn : a.any (·.isEmpty) = true
    · rw [if_pos hn, evalDnf_of_nil_mem hn]; rfl
    · rw [if_neg hn, evalDnf_negFold, evalDnf_one, Bool.true_and, evalDnf, List.not_any_eq_all_not]

/-! ### the clauses of the semiring operations come from the operands -/

theorem mem_dinsert {c c' : Clause} {φ : Dnf} (h : c' ∈ dinsert c φ) : c' = c ∨ c' ∈ φ := by
  unfold dinsert at h
  by_cases hd : dmem c φ = true
  · rw [if_pos hd] at h; exact Or.inr h
  · rw [if_neg hd] at h; exact (List.mem_append.mp h).symm.imp_left List.mem_singleton.mp

theorem mem_dunion {c' : Clause} {φ ψ : Dnf} (h : c' ∈ dunion φ ψ) : c' ∈ φ ∨ c' ∈ ψ := by
  have fold : ∀ (l init : Dnf), c' ∈ l.foldl (fun acc c => dinsert c acc) init → c' ∈ init ∨ c' ∈ l := fun l init =>
    List.foldlRecOn l _ (motive := fun acc => c' ∈ acc → c' ∈ init ∨ c' ∈ l) Or.inl fun acc ih c hc h =>
      (mem_dinsert h).elim (fun e => Or.inr (e ▸ hc)) ih
  rcases fold _ _ h with h1 | h1
  · exact Or.inl ((fold _ _ h1).resolve_left fun h => nomatch h)
  · exact Or.inr h1

def VarsIn (xs : List Nat) (φ : Dnf) : Prop := ∀ c ∈ φ, ∀ l ∈ c, litVar l ∈ xs

theorem varsIn_disj {xs : List Nat} {a b : Dnf} (ha : VarsIn xs a) (hb : VarsIn xs b) : VarsIn xs (dnfDisj a b) :=
  fun c hc => (mem_dunion (List.mem_filter.mp hc).1).elim (ha c) (hb c)

theorem varsIn_conj {xs : List Nat} {a b : Dnf} (ha : VarsIn xs a) (hb : VarsIn xs b) : VarsIn xs (dnfConj a b) := by
  intro c hc l hl
  unfold dnfConj at hc
  by_cases h : (a.isEmpty || b.isEmpty) = true
  · rw [if_pos h] at hc; cases hc
  · rw [if_neg h] at hc
    have hp := (mem_dunion (List.mem_filter.mp (List.mem_filter.mp hc).1).1).resolve_right fun h => nomatch h
    simp only [product, List.mem_flatMap, List.mem_map] at hp
    obtain ⟨ca, hca, cb, hcb, rfl⟩ := hp
    exact (mem_cunion.mp hl).elim (ha ca hca l) (hb cb hcb l)

theorem dsub_eval {w : Nat → Bool} {φ ψ : Dnf} (h : dsub φ ψ = true) (he : evalDnf w φ = true) :
    evalDnf w ψ = true := by
  obtain ⟨c, hc, hec⟩ := evalDnf_iff.mp he
  obtain ⟨c', hc', hq⟩ := dmem_iff.mp (List.all_eq_true.mp h c hc)
  exact evalDnf_iff.mpr ⟨c', hc', evalClause_ceq hq ▸ hec⟩

theorem deq_eval {w : Nat → Bool} {φ ψ : Dnf} (h : deq φ ψ = true) : evalDnf w φ = evalDnf w ψ :=
  Bool.eq_iff_iff.mpr ⟨dsub_eval ((Bool.and_eq_true _ _).mp h).1, dsub_eval ((Bool.and_eq_true _ _).mp h).2⟩

theorem upd_same (w : Nat → Bool) (x : Nat) (b : Bool) : upd w x b x = b := if_pos rfl
theorem upd_other (w : Nat → Bool) {x y : Nat} (b : Bool) (h : y ≠ x) : upd w x b y = w y := if_neg h

theorem weightV_upd (D : Nat) (tbl : Nat → Nat) (xs : List Nat) (w : Nat → Bool) (x : Nat) (b : Bool)
    (hx : x ∉ xs) : weightV D tbl xs (upd w x b) = weightV D tbl xs w := by
  induction xs with
  | nil => rfl
  | cons y ys ih =>
    rw [weightV, weightV, ih (fun h => hx (List.mem_cons_of_mem _ h)),
      upd_other w b (fun h => hx (List.mem_cons.mpr (Or.inl h.symm)))]

theorem sum_map_add {α} (L : List α) (F G : α → Nat) :
    (L.map fun w => F w + G w).sum = (L.map F).sum + (L.map G).sum := by
  induction L with
  | nil => rfl
  | cons h t ih => simp only [List.map_cons, List.sum_cons, ih]; exact Nat.add_add_add_comm ..

theorem sum_map_mul {α} (L : List α) (c : Nat) (F : α → Nat) :
    (L.map fun w => c * F w).sum = c * (L.map F).sum := by
  induction L with
  | nil => rfl
  | cons h t ih => simp only [List.map_cons, List.sum_cons, ih, Nat.mul_add]

theorem wsum_cons (D : Nat) (tbl : Nat → Nat) (x : Nat) (xs : List Nat) (g : (Nat → Bool) → Bool)
    (hx : x ∉ xs) :
    wsum D tbl (x :: xs) g
      = tbl x * wsum D tbl xs (fun w => g (upd w x true))
        + (D - tbl x) * wsum D tbl xs (fun w => g (upd w x false)) := by
  have pair : ∀ (L : List (Nat → Bool)) (F : (Nat → Bool) → Nat),
      ((L.flatMap fun w => [upd w x true, upd w x false]).map F).sum
        = (L.map fun w => F (upd w x true) + F (upd w x false)).sum := by
    intro L F
    induction L with
    | nil => rfl
    | cons h t ih =>
      rw [List.flatMap_cons, List.map_append, List.sum_append, ih, List.map_cons, List.sum_cons]
      simp only [List.map_cons, List.map_nil, List.sum_cons, List.sum_nil, Nat.add_zero]
  rw [wsum, worldsV, pair, sum_map_add, wsum, wsum, ← sum_map_mul, ← sum_map_mul]
  simp only [weightV, upd_same, weightV_upd D tbl xs _ x _ hx, if_true, Bool.false_eq_true, if_false, Nat.mul_assoc]

theorem wsum_false (D : Nat) (tbl : Nat → Nat) (xs : List Nat) : wsum D tbl xs (fun _ => false) = 0 := by
  refine List.sum_eq_zero_iff_forall_eq_nat.mpr fun n hn => ?_
  obtain ⟨w, _, rfl⟩ := List.mem_map.mp hn
  exact Nat.mul_zero _

theorem wsum_true (D : Nat) (tbl : Nat → Nat) (xs : List Nat) (hn : xs.Nodup) (ht : ∀ x ∈ xs, tbl x ≤ D) :
    wsum D tbl xs (fun _ => true) = D ^ xs.length := by
  induction xs with
  | nil => rfl
  | cons x xs ih =>
    rw [List.nodup_cons] at hn
    rw [wsum_cons D tbl x xs _ hn.1, ih hn.2 (fun y hy => ht y (List.mem_cons_of_mem _ hy)), ← Nat.add_mul,
      Nat.add_sub_cancel' (ht x List.mem_cons_self), List.length_cons, Nat.pow_succ, Nat.mul_comm]

theorem evalClause_upd (w : Nat → Bool) (x : Nat) (val : Bool) (c : Clause) :
    evalClause (upd w x val) c
      = (!c.contains (mkLit x (!val)) && evalClause w (c.filter fun l => litVar l != x)) := by
  rw [Bool.eq_iff_iff]
  simp only [Bool.and_eq_true, Bool.not_eq_true', evalClause_iff, List.mem_filter, bne_iff_ne, ne_eq,
    List.contains_eq_mem, decide_eq_false_iff_not]
  constructor
  · refine fun h => ⟨fun hc => ?_, fun l hl => ?_⟩
    · -- the literal against `val` would have to hold under `upd w x val`
      have := h _ hc
      rw [mkLit_var, mkLit_pol, upd_same] at this
      cases val <;> cases this
    · rw [← upd_other w val hl.2]; exact h l hl.1
  · rintro ⟨hnc, h⟩ l hl
    by_cases hv : litVar l = x
    · -- a literal on `x` in `c` is not the one against `val`
      rw [hv, upd_same]
      refine Decidable.by_contra fun hp => hnc ?_
      rw [← hv, ← Bool.eq_not_of_ne (Ne.symm hp), ← lit_eq_mkLit]; exact hl
    · rw [upd_other w val hv]; exact h l ⟨hl, hv⟩

theorem evalDnf_upd (w : Nat → Bool) (x : Nat) (val : Bool) (φ : Dnf) :
    evalDnf (upd w x val) φ = evalDnf w (restrict x val φ) := by
  rw [evalDnf, funext (evalClause_upd w x val)]
  simp only [evalDnf, restrict, List.any_map, List.any_filter, Function.comp_def]

theorem restrict_of_not_mentions {x : Nat} {φ : Dnf} (val : Bool) (h : mentions x φ = false) :
    restrict x val φ = φ := by
  have hm : ∀ c ∈ φ, ∀ l ∈ c, litVar l ≠ x := fun c hc l hl hv =>
    Bool.false_ne_true (h ▸ List.any_eq_true.mpr ⟨c, hc, List.any_eq_true.mpr ⟨l, hl, beq_iff_eq.mpr hv⟩⟩)
  rw [restrict, List.filter_eq_self.mpr, List.map_congr_left (g := id), List.map_id]
  · exact fun c hc => List.filter_eq_self.mpr fun l hl => bne_iff_ne.mpr (hm c hc l hl)
  · intro c hc
    rw [Bool.not_eq_true', List.contains_eq_mem, decide_eq_false_iff_not]
    exact fun hl => hm c hc _ hl (mkLit_var x _)

theorem evalDnf_upd_unmentioned (w : Nat → Bool) (x : Nat) (val : Bool) (φ : Dnf)
    (h : mentions x φ = false) : evalDnf (upd w x val) φ = evalDnf w φ := by
  rw [evalDnf_upd, restrict_of_not_mentions val h]

theorem varsIn_restrict {x : Nat} {xs : List Nat} {φ : Dnf} (val : Bool) (h : VarsIn (x :: xs) φ) :
    VarsIn xs (restrict x val φ) := by
  intro c' hc' l hl
  simp only [restrict, List.mem_map, List.mem_filter] at hc'
  obtain ⟨c, ⟨hc, _⟩, rfl⟩ := hc'
  rw [List.mem_filter, bne_iff_ne] at hl
  exact (List.mem_cons.mp (h c hc l hl.1)).resolve_left hl.2

theorem shannon_eq_wsum (D : Nat) (tbl : Nat → Nat) : ∀ (xs : List Nat) (φ : Dnf), xs.Nodup → VarsIn xs φ →
    (∀ x ∈ xs, tbl x ≤ D) → shannon D tbl xs φ = wsum D tbl xs (fun w => evalDnf w φ) := by
  intro xs
  induction xs with
  | nil =>
    intro φ _ hv _
    rw [shannon]
    by_cases hnil : φ.any (·.isEmpty) = true
    · rw [if_pos hnil, funext fun w => evalDnf_of_nil_mem (w := w) hnil]; rfl
    · -- no variables: every clause is empty, so a formula without an empty clause has none
      rw [if_neg hnil]
      cases φ with
      | nil => rfl
      | cons c t =>
        cases c with
        | nil => exact absurd rfl hnil
        | cons l _ => exact nomatch hv _ List.mem_cons_self l List.mem_cons_self
  | cons x xs ih =>
    intro φ hn hv ht
    rw [shannon]
    by_cases he : φ.isEmpty = true
    · rw [if_pos he, List.isEmpty_iff.mp he]; exact (wsum_false D tbl _).symm
    · rw [if_neg he]
      by_cases hnil : φ.any (·.isEmpty) = true
      · rw [if_pos hnil, funext fun w => evalDnf_of_nil_mem (w := w) hnil, wsum_true D tbl (x :: xs) hn ht]; rfl
      · rw [List.nodup_cons] at hn
        have ht' : ∀ y ∈ xs, tbl y ≤ D := fun y hy => ht y (List.mem_cons_of_mem _ hy)
        have split : ∀ val,
            wsum D tbl xs (fun w => evalDnf (upd w x val) φ) = shannon D tbl xs (restrict x val φ) := fun val => by
          rw [ih _ hn.2 (varsIn_restrict val hv) ht']; simp only [evalDnf_upd]
        rw [if_neg hnil, wsum_cons D tbl x xs _ hn.1, split, split]
        by_cases hm : mentions x φ = true
        · rw [if_pos hm]
        · -- conditioning on a variable that does not occur changes nothing
          have hm := (Bool.not_eq_true _).mp hm
          rw [if_neg (by rw [hm]; exact Bool.false_ne_true), restrict_of_not_mentions _ hm,
            restrict_of_not_mentions _ hm, ← Nat.add_mul, Nat.add_sub_cancel' (ht x List.mem_cons_self)]

end Kolibrie.Prov
