import Kolibrie.Lemmas.Joins
import Kolibrie.Spec.Algebra
/-! The executor operator by operator, and its distribution over `++` of the incoming solutions. -/
namespace Kolibrie.Engine
open List

theorem exec_nil (db : DB) (p : Plan) (ctx : Ctx) : exec db p ctx [] = [] := by
  cases p <;> rfl

/-! `exec` operator by operator, for every input.  Its first equation returns `[]` on the empty input before looking
    at the plan, so each statement is the defining equation on `_ :: _` plus the remark that the right-hand side is
    empty on `[]` as well. -/
theorem exec_unit (db : DB) (ctx : Ctx) (inc : List Row) : exec db .unit ctx inc = inc := by
  cases inc <;> rfl
theorem exec_empty (db : DB) (ctx : Ctx) (inc : List Row) : exec db .empty ctx inc = [] := by
  cases inc <;> rfl
theorem exec_scan (db : DB) (ctx : Ctx) (pat : QPat) (inc : List Row) :
    exec db (.scan pat) ctx inc = scan db ctx pat inc := by
  cases inc <;> rfl
theorem exec_union (db : DB) (ctx : Ctx) (l r : Plan) (inc : List Row) :
    exec db (.union l r) ctx inc = exec db l ctx inc ++ exec db r ctx inc := by
  cases inc with
  | nil => simp only [exec_nil, append_nil]
  | cons _ _ => rfl
theorem exec_filter (db : DB) (ctx : Ctx) (i : Plan) (c : Cond) (inc : List Row) :
    exec db (.filter i c) ctx inc = (exec db i ctx inc).filter c.eval := by
  cases inc with
  | nil => simp only [exec_nil, filter_nil]
  | cons _ _ => rfl
theorem exec_project (db : DB) (ctx : Ctx) (i : Plan) (vs : List Var) (inc : List Row) :
    exec db (.project i vs) ctx inc = (exec db i ctx inc).map (fun r => Row.restrict r vs) := by
  cases inc with
  | nil => simp only [exec_nil, map_nil]
  | cons _ _ => rfl
theorem exec_bindJoin (db : DB) (ctx : Ctx) (l r : Plan) (inc : List Row) :
    exec db (.bindJoin l r) ctx inc = exec db r ctx (exec db l ctx inc) := by
  cases inc with
  | nil => simp only [exec_nil]
  | cons _ _ => rfl
/-- the executor's emptiness guard in front of the two materialising joins is redundant: both joins are empty on an
    empty left operand -/
theorem guarded_join (J : List Row → List Row → List Row) (hJ : ∀ r, J [] r = []) (l r : List Row) :
    (if l.isEmpty then [] else J l r) = J l r := by
  cases l with
  | nil => exact (hJ r).symm
  | cons _ _ => rfl
theorem exec_hashJoin (db : DB) (ctx : Ctx) (l r : Plan) (inc : List Row) :
    exec db (.hashJoin l r) ctx inc = hashJoin (exec db l ctx inc) (exec db r ctx [[]]) := by
  cases inc with
  | nil => simp only [exec_nil]; rfl
  | cons a as => exact guarded_join hashJoin (fun _ => rfl) (exec db l ctx (a :: as)) _
theorem exec_nlJoin (db : DB) (ctx : Ctx) (l r : Plan) (inc : List Row) :
    exec db (.nlJoin l r) ctx inc = nlJoin (exec db l ctx inc) (exec db r ctx [[]]) := by
  cases inc with
  | nil => simp only [exec_nil]; rfl
  | cons a as => exact guarded_join nlJoin (fun _ => rfl) (exec db l ctx (a :: as)) _
theorem exec_star (db : DB) (ctx : Ctx) (pats : List QPat) (inc : List Row) :
    exec db (.star pats) ctx inc = pats.foldl (fun acc p => scan db ctx { p with g := .dflt } acc) inc := by
  cases inc with
  | nil =>
    rw [exec_nil]
    induction pats with
    | nil => rfl
    | cons p ps ih => exact ih
  | cons _ _ => rfl
theorem exec_values (db : DB) (ctx : Ctx) (vars : List Var) (rows : List (List (Option Val))) (inc : List Row) :
    exec db (.values vars rows) ctx inc = nlJoin inc (valuesRows vars rows) := by
  cases inc <;> rfl
theorem exec_subquery (db : DB) (ctx : Ctx) (i : Plan) (spec : Spec) (inc : List Row) :
    exec db (.subquery i spec) ctx inc = nlJoin inc (finalizeSub spec (exec db i ctx [[]])) := by
  cases inc <;> rfl
theorem exec_bind (db : DB) (ctx : Ctx) (i : Plan) (args : List Operand) (out : Var) (inc : List Row) :
    exec db (.bind i args out) ctx inc =
      (exec db i ctx inc).map (fun r => Row.insert r out (concatArgs args r)) := by
  cases inc with
  | nil => simp only [exec_nil, map_nil]
  | cons _ _ => rfl
theorem exec_graph_dflt (db : DB) (ctx : Ctx) (i : Plan) (inc : List Row) :
    exec db (.graph i .dflt) ctx inc = exec db i { ctx with active := none } inc := by
  cases inc with
  | nil => simp only [exec_nil]
  | cons _ _ => rfl
theorem exec_graph_named (db : DB) (ctx : Ctx) (i : Plan) (gn : Val) (inc : List Row) :
    exec db (.graph i (.named gn)) ctx inc =
      if visibleNamed db ctx gn then exec db i { ctx with active := some gn } inc else [] := by
  cases inc with
  | nil => simp only [exec_nil, ite_self]
  | cons _ _ => rfl
theorem exec_graph_var (db : DB) (ctx : Ctx) (i : Plan) (v : Var) (inc : List Row) :
    exec db (.graph i (.var v)) ctx inc = inc.flatMap (graphVarRow db ctx v (exec db i)) := by
  cases inc <;> rfl

theorem perm_of_append {α β} (f : List α → List β)
    (h : ∀ a b, f (a ++ b) ~ f a ++ f b) {x y : List α} (hp : x ~ y) : f x ~ f y := by
  induction hp with
  | nil => exact .refl _
  | @cons a l₁ l₂ _ ih => exact (h [a] l₁).trans ((Perm.append_left _ ih).trans (h [a] l₂).symm)
  | swap a b l =>
    have : f [b, a] ~ f [a, b] := (h [b] [a]).trans (perm_append_comm.trans (h [a] [b]).symm)
    exact (h [b, a] l).trans ((this.append_right _).trans (h [a, b] l).symm)
  | trans _ _ ih1 ih2 => exact ih1.trans ih2

theorem scan_append (db : DB) (ctx : Ctx) (pat : QPat) (a b : List Row) :
    scan db ctx pat (a ++ b) = scan db ctx pat a ++ scan db ctx pat b :=
  flatMap_append

theorem star_append (db : DB) (ctx : Ctx) (pats : List QPat) (a b : List Row) :
    pats.foldl (fun acc p => scan db ctx { p with g := .dflt } acc) (a ++ b) =
    pats.foldl (fun acc p => scan db ctx { p with g := .dflt } acc) a ++
    pats.foldl (fun acc p => scan db ctx { p with g := .dflt } acc) b := by
  induction pats generalizing a b with
  | nil => rfl
  | cons p ps ih => simp only [foldl_cons, scan_append, ih]

/-- **chunking lemma**: executing a plan on `a ++ b` gives, as a multiset, what executing it on `a` and on
    `b` separately gives — for every plan, context and database -/
theorem exec_append (db : DB) (p : Plan) : ∀ (ctx : Ctx) (a b : List Row),
    exec db p ctx (a ++ b) ~ exec db p ctx a ++ exec db p ctx b := by
  intro ctx a b
  induction p generalizing ctx a b with
  | unit => simp only [exec_unit]; exact .refl _
  | empty => simp only [exec_empty]; exact .refl _
  | scan pat => simp only [exec_scan, scan_append]; exact .refl _
  | star pats => simp only [exec_star, star_append]; exact .refl _
  | values vars rows => simp only [exec_values, nlJoin_append_left]; exact .refl _
  | subquery i spec _ => simp only [exec_subquery, nlJoin_append_left]; exact .refl _
  | union l r ihl ihr =>
    simp only [exec_union]
    exact ((ihl ctx a b).append (ihr ctx a b)).trans (perm_append_interleave _ _ _ _)
  | graph i g ih =>
    cases g with
    | dflt => simp only [exec_graph_dflt]; exact ih _ a b
    | named gn =>
      simp only [exec_graph_named]
      split
      · exact ih _ a b
      · exact .refl _
    | var v => simp only [exec_graph_var, flatMap_append]; exact .refl _
  | filter i c ih =>
    simp only [exec_filter, ← filter_append]
    exact (ih ctx a b).filter c.eval
  | project i vs ih =>
    simp only [exec_project, ← map_append]
    exact (ih ctx a b).map _
  | bind i args out ih =>
    simp only [exec_bind, ← map_append]
    exact (ih ctx a b).map _
  | bindJoin l r ihl ihr =>
    simp only [exec_bindJoin]
    exact (perm_of_append (exec db r ctx) (ihr ctx) (ihl ctx a b)).trans (ihr ctx _ _)
  | hashJoin l r ihl _ =>
    simp only [exec_hashJoin]
    refine (hashJoin_perm_nlJoin _ _).trans ?_
    refine (nlJoin_perm_left _ (ihl ctx a b)).trans ?_
    rw [nlJoin_append_left]
    exact (hashJoin_perm_nlJoin _ _).symm.append (hashJoin_perm_nlJoin _ _).symm
  | nlJoin l r ihl _ =>
    simp only [exec_nlJoin, ← nlJoin_append_left]
    exact nlJoin_perm_left _ (ihl ctx a b)

theorem exec_perm (db : DB) (p : Plan) (ctx : Ctx) {x y : List Row} (h : x ~ y) :
    exec db p ctx x ~ exec db p ctx y :=
  perm_of_append (exec db p ctx) (exec_append db p ctx) h

theorem chunks_flatten {α} (n : Nat) (l : List α) : (chunks n l).flatten = l := by
  induction l using chunks.induct n with
  | case1 l h => rw [chunks, dif_pos h]; simp
  | case2 l h ih => rw [chunks, dif_neg h]; simp [ih]

def InputIndep (db : DB) (p : Plan) : Prop :=
  ∀ ctx inc, exec db p ctx inc ~ nlJoin inc (exec db p ctx [[]])

theorem inputIndep_unit (db : DB) : InputIndep db .unit := by
  intro ctx inc; simp only [exec_unit, nlJoin_unit_right]; exact .refl _

theorem inputIndep_empty (db : DB) : InputIndep db .empty := by
  intro ctx inc; simp only [exec_empty, nlJoin_nil_right]; exact .refl _

end Kolibrie.Engine
