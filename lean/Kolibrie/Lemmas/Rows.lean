import Kolibrie.Model.Engine
/-! Canonical solution mappings: rows are association lists strictly sorted by variable.
    Lookup/insert laws, extensionality, and the algebra of `mergeRows`. -/
namespace Kolibrie.Engine
open List

def Row.WF (r : Row) : Prop := r.Pairwise (fun a b => a.1 < b.1)

theorem Row.wf_nil : Row.WF [] := Pairwise.nil

theorem Row.get_nil (v : Var) : Row.get [] v = none := rfl

theorem Row.get_cons (k : Var) (x : Val) (r : Row) (v : Var) :
    Row.get ((k, x) :: r) v = if k = v then some x else Row.get r v := by
  simp [Row.get]

theorem ite_eq_comm {α β} [DecidableEq α] (a b : α) (s t : β) :
    (if a = b then s else t) = if b = a then s else t := by
  by_cases h : a = b
  · rw [if_pos h, if_pos h.symm]
  · rw [if_neg h, if_neg (Ne.symm h)]

theorem Row.get_insert (r : Row) (v : Var) (x : Val) (w : Var) :
    Row.get (Row.insert r v x) w = if w = v then some x else Row.get r w := by
  fun_induction Row.insert r v x with
  | case1 => exact (Row.get_cons v x [] w).trans (ite_eq_comm v w _ _)
  | case2 k y rest h1 => rw [Row.get_cons]; exact ite_eq_comm v w _ _
  | case3 k y rest h1 h2 =>
    cases beq_iff_eq.1 h2
    rw [Row.get_cons, Row.get_cons]
    by_cases h : w = v
    · rw [if_pos h, if_pos h.symm]
    · rw [if_neg h, if_neg (Ne.symm h), if_neg (Ne.symm h)]
  | case4 k y rest h1 h2 ih =>
    rw [Row.get_cons, ih, Row.get_cons]
    by_cases hk : k = w
    · rw [if_pos hk, if_pos hk, if_neg (fun e => h2 (beq_iff_eq.2 (e ▸ hk).symm))]
    · rw [if_neg hk, if_neg hk]

theorem Row.get_insert_self (r : Row) (v : Var) (x : Val) : Row.get (Row.insert r v x) v = some x := by
  rw [Row.get_insert, if_pos rfl]

theorem Row.get_insert_ne (r : Row) (v : Var) (x : Val) (w : Var) (h : w ≠ v) :
    Row.get (Row.insert r v x) w = Row.get r w := by
  rw [Row.get_insert, if_neg h]

theorem Row.mem_insert_key (r : Row) (v : Var) (x : Val) (e : Var × Val) (h : e ∈ Row.insert r v x) :
    e.1 = v ∨ e ∈ r := by
  fun_induction Row.insert r v x with
  | case1 => exact .inl (by rw [mem_singleton.1 h])
  | case2 k y rest h1 =>
    rcases mem_cons.1 h with rfl | h
    · exact .inl rfl
    · exact .inr h
  | case3 k y rest h1 h2 =>
    rcases mem_cons.1 h with rfl | h
    · exact .inl (beq_iff_eq.1 h2).symm
    · exact .inr (mem_cons_of_mem _ h)
  | case4 k y rest h1 h2 ih =>
    rcases mem_cons.1 h with rfl | h
    · exact .inr mem_cons_self
    · exact (ih h).imp_right (mem_cons_of_mem _)

theorem Row.wf_insert (r : Row) (v : Var) (x : Val) (h : Row.WF r) : Row.WF (Row.insert r v x) := by
  fun_induction Row.insert r v x with
  | case1 => exact pairwise_singleton _ _
  | case2 k y rest h1 =>
    refine pairwise_cons.2 ⟨fun e he => ?_, h⟩
    rcases mem_cons.1 he with rfl | he
    · exact h1
    · exact Nat.lt_trans h1 ((pairwise_cons.1 h).1 e he)
  | case3 k y rest h1 h2 => exact pairwise_cons.2 (pairwise_cons.1 h)
  | case4 k y rest h1 h2 ih =>
    refine pairwise_cons.2 ⟨fun e he => ?_, ih (pairwise_cons.1 h).2⟩
    rcases Row.mem_insert_key rest v x e he with a | a
    · rw [a]; exact Nat.lt_of_le_of_ne (Nat.le_of_not_lt h1) (fun e => h2 (beq_iff_eq.2 e.symm))
    · exact (pairwise_cons.1 h).1 e a

theorem Row.get_mem {r : Row} {v : Var} {x : Val} (h : Row.get r v = some x) : (v, x) ∈ r := by
  fun_induction Row.get r v with
  | case1 => cases h
  | case2 k y rest hk => cases h; cases beq_iff_eq.1 hk; exact mem_cons_self
  | case3 k y rest hk ih => exact mem_cons_of_mem _ (ih h)

theorem Row.mem_iff_get (r : Row) (h : Row.WF r) (k : Var) (x : Val) : (k, x) ∈ r ↔ Row.get r k = some x := by
  refine ⟨fun hm => ?_, Row.get_mem⟩
  induction r with
  | nil => cases hm
  | cons e rest ih =>
    obtain ⟨k', y⟩ := e
    rw [Row.get_cons]
    rcases mem_cons.1 hm with heq | hm'
    · cases heq; rw [if_pos rfl]
    · have hlt : k' < k := (pairwise_cons.1 h).1 (k, x) hm'
      rw [if_neg (Nat.ne_of_lt hlt)]
      exact ih (pairwise_cons.1 h).2 hm'

/-- Two canonical rows with the same lookups have the same entries, and a strictly sorted list is determined by its
    entries. -/
theorem Row.ext (a b : Row) (ha : Row.WF a) (hb : Row.WF b) (h : ∀ v, Row.get a v = Row.get b v) : a = b := by
  have nodup : ∀ {r : Row}, Row.WF r → r.Nodup := fun hr => by
    unfold Row.WF at hr
    exact hr.imp (fun hlt e => by subst e; exact Nat.lt_irrefl _ hlt)
  refine Perm.eq_of_pairwise (fun _ _ _ _ h1 h2 => absurd h1 (Nat.lt_asymm h2)) ha hb ?_
  refine (perm_ext_iff_of_nodup (nodup ha) (nodup hb)).2 fun e => ?_
  rw [Row.mem_iff_get a ha, Row.mem_iff_get b hb, h]

def compat (a b : Row) : Prop := ∀ v x y, Row.get a v = some x → Row.get b v = some y → x = y

theorem get_unionRows (l r : Row) (v : Var) :
    Row.get (unionRows l r) v = match Row.get l v with | some x => some x | none => Row.get r v := by
  unfold unionRows
  induction r generalizing l with
  | nil => rw [foldl_nil, Row.get_nil]; cases Row.get l v <;> rfl
  | cons e rest ih =>
    obtain ⟨k, y⟩ := e
    rw [foldl_cons, ih, Row.get_cons]
    -- the fold adds the entry `(k, y)` to `l` unless `l` binds `k` already
    cases hlk : Row.get l k with
    | some x =>
      dsimp only
      cases hlv : Row.get l v with
      | some _ => rfl
      | none => rw [if_neg (fun e => by rw [e, hlv] at hlk; cases hlk)]
    | none =>
      dsimp only
      rw [Row.get_insert]
      by_cases hvk : v = k
      · subst hvk; rw [if_pos rfl, hlk, if_pos rfl]
      · rw [if_neg hvk, if_neg (Ne.symm hvk)]

theorem foldl_wf {α} (f : Row → α → Row) (hf : ∀ r a, Row.WF r → Row.WF (f r a)) (l : List α) (r : Row)
    (h : Row.WF r) : Row.WF (l.foldl f r) := by
  induction l generalizing r with
  | nil => exact h
  | cons a l ih => exact ih _ (hf r a h)

theorem wf_unionRows (l r : Row) (h : Row.WF l) : Row.WF (unionRows l r) := by
  refine foldl_wf _ (fun acc e hacc => ?_) r l h
  cases Row.get acc e.1 with
  | some _ => exact hacc
  | none => exact Row.wf_insert acc e.1 e.2 hacc

/-- the test looks every entry of `l` up in `r`; a lookup in `l` returns one of its entries -/
theorem compat_of_compatB {l r : Row} (h : compatB l r = true) : compat l r := by
  intro v x y hx hy
  have := all_eq_true.1 h (v, x) (Row.get_mem hx)
  simp only [hy] at this
  simpa using this

theorem compatB_iff (l r : Row) (hl : Row.WF l) : compatB l r = true ↔ compat l r := by
  refine ⟨compat_of_compatB, ?_⟩
  unfold compatB
  rw [all_eq_true]
  rintro h ⟨k, x⟩ he
  have hx := (Row.mem_iff_get l hl k x).1 he
  show (match Row.get r k with | some y => x == y | none => true) = true
  cases hy : Row.get r k with
  | none => rfl
  | some y => exact beq_iff_eq.2 (h k x y hx hy)

theorem mergeRows_some (l r : Row) (hl : Row.WF l) (hc : compat l r) : mergeRows l r = some (unionRows l r) := by
  unfold mergeRows
  rw [if_pos ((compatB_iff l r hl).2 hc)]

theorem mergeRows_none (l r : Row) (hl : Row.WF l) (hc : ¬ compat l r) : mergeRows l r = none := by
  unfold mergeRows
  rw [if_neg (fun h => hc ((compatB_iff l r hl).1 h))]

theorem mergeRows_eq_some {l r m : Row} (h : mergeRows l r = some m) : compat l r ∧ m = unionRows l r := by
  unfold mergeRows at h
  by_cases hc : compatB l r = true
  · rw [if_pos hc] at h; exact ⟨compat_of_compatB hc, (Option.some.inj h).symm⟩
  · rw [if_neg hc] at h; cases h

theorem mergeRows_wf (l r m : Row) (hl : Row.WF l) (h : mergeRows l r = some m) : Row.WF m := by
  obtain ⟨_, rfl⟩ := mergeRows_eq_some h
  exact wf_unionRows l r hl

theorem compat_symm {a b : Row} (h : compat a b) : compat b a :=
  fun v x y hx hy => (h v y x hy hx).symm

theorem mergeRows_comm (a b : Row) (ha : Row.WF a) (hb : Row.WF b) : mergeRows a b = mergeRows b a := by
  classical
  by_cases hc : compat a b
  · rw [mergeRows_some a b ha hc, mergeRows_some b a hb (compat_symm hc)]
    congr 1
    apply Row.ext _ _ (wf_unionRows a b ha) (wf_unionRows b a hb)
    intro v
    rw [get_unionRows, get_unionRows]
    cases hx : Row.get a v with
    | none => cases Row.get b v <;> rfl
    | some x =>
      cases hy : Row.get b v with
      | none => rfl
      | some y => simp [hc v x y hx hy]
  · rw [mergeRows_none a b ha hc, mergeRows_none b a hb (fun h => hc (compat_symm h))]

theorem compat_union_left (a b c : Row) (hab : compat a b) :
    compat (unionRows a b) c ↔ compat a c ∧ compat b c := by
  constructor
  · intro h
    constructor
    · intro v x y hx hy
      exact h v x y (by rw [get_unionRows, hx]) hy
    · intro v x y hx hy
      cases ha : Row.get a v with
      | none => exact h v x y (by rw [get_unionRows, ha]; exact hx) hy
      | some x' =>
        have hxx : x' = x := hab v x' x ha hx
        rw [hxx] at ha
        exact h v x y (by rw [get_unionRows, ha]) hy
  · rintro ⟨h1, h2⟩ v x y hx hy
    rw [get_unionRows] at hx
    cases ha : Row.get a v with
    | none => rw [ha] at hx; exact h2 v x y hx hy
    | some x' => rw [ha] at hx; cases hx; exact h1 v _ y ha hy

theorem compat_union_right (a b c : Row) (hbc : compat b c) :
    compat a (unionRows b c) ↔ compat a b ∧ compat a c := by
  constructor
  · intro h
    obtain ⟨h1, h2⟩ := (compat_union_left b c a hbc).1 (compat_symm h)
    exact ⟨compat_symm h1, compat_symm h2⟩
  · exact fun ⟨h1, h2⟩ => compat_symm ((compat_union_left b c a hbc).2 ⟨compat_symm h1, compat_symm h2⟩)

theorem mergeRows_assoc (a b c : Row) (ha : Row.WF a) (hb : Row.WF b) :
    (mergeRows a b).bind (fun m => mergeRows m c) = (mergeRows b c).bind (fun n => mergeRows a n) := by
  classical
  by_cases hab : compat a b
  · rw [mergeRows_some a b ha hab]
    simp only [Option.bind_some]
    by_cases hbc : compat b c
    · rw [mergeRows_some b c hb hbc]
      simp only [Option.bind_some]
      by_cases hac : compat a c
      · rw [mergeRows_some _ c (wf_unionRows a b ha) ((compat_union_left a b c hab).2 ⟨hac, hbc⟩),
            mergeRows_some a _ ha ((compat_union_right a b c hbc).2 ⟨hab, hac⟩)]
        congr 1
        apply Row.ext _ _ (wf_unionRows _ c (wf_unionRows a b ha)) (wf_unionRows a _ ha)
        intro v
        simp only [get_unionRows]
        cases Row.get a v <;> cases Row.get b v <;> rfl
      · rw [mergeRows_none _ c (wf_unionRows a b ha) (fun h => hac ((compat_union_left a b c hab).1 h).1),
            mergeRows_none a _ ha (fun h => hac ((compat_union_right a b c hbc).1 h).2)]
    · rw [mergeRows_none b c hb hbc]
      simp only [Option.bind_none]
      exact mergeRows_none _ c (wf_unionRows a b ha) (fun h => hbc ((compat_union_left a b c hab).1 h).2)
  · rw [mergeRows_none a b ha hab]
    simp only [Option.bind_none]
    by_cases hbc : compat b c
    · rw [mergeRows_some b c hb hbc]
      simp only [Option.bind_some]
      exact (mergeRows_none a _ ha (fun h => hab ((compat_union_right a b c hbc).1 h).1)).symm
    · rw [mergeRows_none b c hb hbc]; rfl

theorem mergeRows_nil_left (b : Row) : ∃ r, mergeRows [] b = some r := by
  unfold mergeRows compatB; simp

theorem mergeRows_nil_left_eq (b : Row) (hb : Row.WF b) : mergeRows [] b = some b := by
  have hc : compat [] b := fun v x y hx _ => by simp [Row.get_nil] at hx
  rw [mergeRows_some [] b Row.wf_nil hc]
  congr 1
  apply Row.ext _ _ (wf_unionRows [] b Row.wf_nil) hb
  intro v; rw [get_unionRows]; simp [Row.get_nil]

theorem mergeRows_nil_right (a : Row) : mergeRows a [] = some a := by
  have : compatB a [] = true := all_eq_true.2 (fun _ _ => rfl)
  unfold mergeRows
  rw [if_pos this]; rfl

theorem mergeRows_conflict (a b : Row) (v : Var) (x y : Val)
    (ha : Row.get a v = some x) (hb : Row.get b v = some y) (hne : x ≠ y) : mergeRows a b = none := by
  have : compatB a b = false := by
    unfold compatB
    rw [all_eq_false]
    refine ⟨(v, x), Row.get_mem ha, ?_⟩
    simp only [hb]
    simpa using hne
  unfold mergeRows
  rw [this]; rfl

def Extends (r r' : Row) : Prop := ∀ v x, Row.get r v = some x → Row.get r' v = some x

def boundIn (row : Row) (vs : List Var) : Prop := ∀ v ∈ vs, (Row.get row v).isSome = true

theorem Extends.isSome {r r' : Row} (h : Extends r r') (v : Var) (hv : (Row.get r v).isSome = true) :
    (Row.get r' v).isSome = true := by
  cases hx : Row.get r v with
  | none => rw [hx] at hv; cases hv
  | some x => rw [h v x hx]; rfl

theorem extends_refl (r : Row) : Extends r r := fun _ _ h => h
theorem extends_trans {a b c : Row} (h1 : Extends a b) (h2 : Extends b c) : Extends a c :=
  fun v x h => h2 v x (h1 v x h)

theorem extends_insert (r : Row) (v : Var) (x : Val) (h : Row.get r v = none) : Extends r (Row.insert r v x) := by
  intro w y hw
  have : w ≠ v := fun e => by rw [e, h] at hw; cases hw
  rw [Row.get_insert_ne _ _ _ _ this]; exact hw

theorem mergeRows_extends {a b m : Row} (h : mergeRows a b = some m) : Extends a m ∧ Extends b m := by
  obtain ⟨hc, rfl⟩ := mergeRows_eq_some h
  constructor
  · intro v x hv; rw [get_unionRows, hv]
  · intro v y hv; rw [get_unionRows]; cases hx : Row.get a v with
    | none => exact hv
    | some x => rw [hc v x y hx hv]

end Kolibrie.Engine
