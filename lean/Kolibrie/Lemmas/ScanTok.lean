import Kolibrie.Model.Scan
/-
Boundary / no-panic / progress theorems for the byte-level scanner model (`Model/Scan.lean`).

For every oracle `cls : CharClass`, every `s : Bytes` with `WF s` (structural UTF-8 well-formedness, satisfied by every
Rust `&str`) and every scanner X ∈ {Var, Iri, Bnode, Pname, Num, Lit} there is one theorem
`scanX_good : Good s 0 (scanX cls s)`; what the property needs (no panic, no fuel exhaustion, results and error slices on
boundaries inside the input, non-empty tokens) is read off `Good` by the five `good_…` lemmas, which hold of any result.
The `…At` forms (`varAt_good` …) hold from any boundary `b` of `s`, which is what the nested calls of
`sparql_quoted_literal` (`^^` datatype → `sparql_iri` / `sparql_prefixed_name` on a suffix) use.  `sparql_skip_ws` cannot
fail (`skipWs_boundary`) and skips nothing the second time (`skipWsAt_idempotent`).

All statements carry the hypothesis `WF s`.  For progress the hypothesis is not essential:
/- FULL: theorem scanX_progress' (cls) (s : Bytes) : scanX cls s = .ok n a l → 0 < l      (no `WF s`)
   not proved separately: it needs a second pass over every loop with the index inequalities only (`w < te`, `i ≤ j`)
   and no boundary facts.  Every input the Rust scanners can receive is a `&str`, hence `WF`. -/
Proof shape: `Chars` (inductive view of `WF`) → `char_step` (from a boundary, the decoded character ends on a boundary and
no boundary lies inside it) → one loop invariant per Rust loop ("index is a boundary, fuel covers the rest") → `Good`.
The loop proofs walk the unfolded body one condition at a time (`by_cases` on the condition, then rewrite that one `if`):
`split` on a whole loop body is two orders of magnitude slower to check here.
-/
namespace Kolibrie.Scan
open Kolibrie.Utf8

/-! ## UTF-8 structure -/

/-- a byte string that is a concatenation of characters (lead byte + `leadLen - 1` continuation bytes) -/
inductive Chars : Bytes → Prop
  | nil : Chars []
  | cons (b : UInt8) (cs rest : Bytes) : isCont b = false → cs.length = leadLen b - 1 →
      (∀ c ∈ cs, isCont c = true) → Chars rest → Chars (b :: (cs ++ rest))

theorem chars_of_wellFormed : ∀ (f : Nat) (s : Bytes), wellFormed f s = true → Chars s
  | _, [], _ => .nil
  | 0, _ :: _, h => by simp [wellFormed] at h
  | f + 1, b :: t, h => by
    simp only [wellFormed, Bool.and_eq_true] at h
    obtain ⟨⟨⟨h1, h2⟩, h3⟩, h4⟩ := h
    rw [← List.take_append_drop (leadLen b - 1) t]
    exact .cons b _ _ (by simpa using h1) (by simpa using h2) (by simpa using h3) (chars_of_wellFormed f _ h4)

theorem leadLen_pos (b : UInt8) : 1 ≤ leadLen b := by
  unfold leadLen; split <;> (try split) <;> (try split) <;> omega

theorem bd_le {s : Bytes} {i : Nat} (h : isBoundary s i = true) : i ≤ s.length := by
  unfold isBoundary at h
  by_cases h0 : i = 0
  · omega
  · simp only [beq_iff_eq, h0, if_false] at h
    cases hg : s[i]? with
    | none => simp [hg] at h; omega
    | some b => have := (List.getElem?_eq_some_iff.mp hg).1; omega

theorem bd_zero (s : Bytes) : isBoundary s 0 = true := by simp [isBoundary]

theorem bd_length (s : Bytes) : isBoundary s s.length = true := by simp [isBoundary]

/-- past its first index a suffix has the boundaries of the whole string -/
theorem bd_drop {s : Bytes} {i k : Nat} (hi : i ≤ s.length) (hk : k ≠ 0) :
    isBoundary s (i + k) = isBoundary (s.drop i) k := by
  have hlen : (i + k == s.length) = (k == s.length - i) := by
    rw [Bool.eq_iff_iff, beq_iff_eq, beq_iff_eq]; omega
  unfold isBoundary
  rw [List.getElem?_drop, List.length_drop, hlen]
  simp [hk]

theorem bd_inside {b : UInt8} {cs rest : Bytes} (hcs : ∀ c ∈ cs, isCont c = true) {k : Nat} (hk : k < cs.length) :
    isBoundary (b :: (cs ++ rest)) (k + 1) = false := by
  have : (b :: (cs ++ rest))[k + 1]? = some cs[k] := by simp [List.getElem?_append_left hk]
  simp [isBoundary, this, hcs cs[k] (List.getElem_mem hk)]

theorem drop_char (b : UInt8) (cs rest : Bytes) : (b :: (cs ++ rest)).drop (cs.length + 1) = rest := by
  rw [List.drop_succ_cons, List.drop_left]

theorem chars_drop {s : Bytes} (h : Chars s) : ∀ i, isBoundary s i = true → Chars (s.drop i) := by
  induction h with
  | nil => intro i _; rw [List.drop_nil]; exact .nil
  | cons b cs rest hb hlen hcs hrest ih =>
    intro i hi
    cases i with
    | zero => exact .cons b cs rest hb hlen hcs hrest
    | succ k =>
      by_cases hk : k < cs.length
      · rw [bd_inside hcs hk] at hi; cases hi
      · -- past the first character: `k + 1 = (cs.length + 1) + j` with `j` a boundary of `rest`
        obtain ⟨j, rfl⟩ : ∃ j, k = cs.length + j := ⟨k - cs.length, by omega⟩
        rw [Nat.add_right_comm] at hi ⊢
        rw [← List.drop_drop, drop_char]
        apply ih
        by_cases hj : j = 0
        · rw [hj]; exact bd_zero rest
        · rwa [bd_drop (by simp) hj, drop_char] at hi

theorem bd_of_chars_drop {s : Bytes} {j : Nat} (h : Chars (s.drop j)) (hj : j ≤ s.length) :
    isBoundary s j = true := by
  generalize hd : s.drop j = l at h
  cases h with
  | nil => rw [Nat.le_antisymm hj (List.drop_eq_nil_iff.mp hd)]; exact bd_length s
  | cons b cs rest hb _ _ _ =>
    have : s[j]? = some b := by rw [← Nat.add_zero j, ← List.getElem?_drop, hd]; rfl
    simp [isBoundary, this, hb]

theorem decodeHead_len {b : UInt8} {t : Bytes} {c : Nat × Nat} (h : decodeHead (b :: t) = some c) :
    c.2 = leadLen b := by
  unfold decodeHead at h
  dsimp only at h
  by_cases h1 : (leadLen b == 1) = true
  · rw [if_pos h1] at h; cases h; exact (beq_iff_eq.mp h1).symm
  · rw [if_neg h1] at h; cases h; rfl

theorem decodeAt_some_iff {s : Bytes} {i : Nat} : (∃ c, decodeAt s i = some c) ↔ i < s.length := by
  unfold decodeAt
  cases hd : s.drop i with
  | nil => have := List.drop_eq_nil_iff.mp hd; simp [decodeHead]; omega
  | cons b t =>
    have hlt : i < s.length := Nat.lt_of_not_le fun hle => by simp [List.drop_eq_nil_of_le hle] at hd
    refine ⟨fun _ => hlt, fun _ => ?_⟩
    unfold decodeHead
    dsimp only
    split <;> exact ⟨_, rfl⟩

theorem bAt_lt {s : Bytes} {i : Nat} (h : bAt s i < 256) : i < s.length := by
  unfold bAt at h
  cases hg : s[i]? with
  | none => simp [hg] at h
  | some b => exact (List.getElem?_eq_some_iff.mp hg).1

theorem bAt_drop {s : Bytes} {i k : Nat} (h : k < (s.drop i).length) : bAt s (i + k) = (s.drop i)[k].toNat := by
  have : s[i + k]? = some (s.drop i)[k] := by rw [← List.getElem?_drop]; exact List.getElem?_eq_getElem h
  simp [bAt, this]

theorem char_step {s : Bytes} {i : Nat} {c : Nat × Nat} (hw : WF s) (hi : isBoundary s i = true)
    (hc : decodeAt s i = some c) :
    1 ≤ c.2 ∧ isBoundary s (i + c.2) = true ∧ (bAt s i < 128 → c.2 = 1) ∧
      (∀ k, i < k → k < i + c.2 → isBoundary s k = false) := by
  have hil := bd_le hi
  have h := chars_drop (chars_of_wellFormed _ _ hw) i hi
  unfold decodeAt at hc
  generalize hd : s.drop i = l at h hc
  cases h with
  | nil => cases hc
  | cons b cs rest hb hl hcs hr =>
    have hpos := leadLen_pos b
    have hc2 : c.2 = cs.length + 1 := by rw [decodeHead_len hc, hl]; exact (Nat.sub_add_cancel hpos).symm
    have hlen := congrArg List.length hd
    simp only [List.length_drop, List.length_cons, List.length_append] at hlen
    rw [hc2]
    refine ⟨Nat.le_add_left _ _, ?_, fun ha => ?_, fun k hk1 hk2 => ?_⟩
    · apply bd_of_chars_drop
      · rw [← List.drop_drop, hd, drop_char]; exact hr
      · omega
    · have hb128 : b.toNat < 128 := by
        rw [← Nat.add_zero i, bAt_drop (by rw [hd]; exact Nat.succ_pos _)] at ha
        simpa [hd] using ha
      have : leadLen b = 1 := by unfold leadLen; simp [hb128]
      rw [hl, this]
    · obtain ⟨m, rfl⟩ : ∃ m, k = i + (m + 1) := ⟨k - i - 1, by omega⟩
      rw [bd_drop hil (Nat.succ_ne_zero m), hd]
      exact bd_inside hcs (Nat.lt_of_succ_lt_succ (Nat.lt_of_add_lt_add_left hk2))

theorem bd_ascii {s : Bytes} {i : Nat} (hw : WF s) (hi : isBoundary s i = true) (ha : bAt s i < 128) :
    isBoundary s (i + 1) = true := by
  obtain ⟨c, hc⟩ := decodeAt_some_iff.mpr (bAt_lt (by omega : bAt s i < 256))
  have := char_step hw hi hc
  rw [← this.2.2.1 ha]; exact this.2.1

/-- `bd_ascii` for a byte that the scanner found equal to an ASCII literal `c` -/
theorem bd_byte {s : Bytes} {i c : Nat} (hw : WF s) (hi : isBoundary s i = true) (hb : bAt s i = c)
    (hc : c < 128 := by decide) : isBoundary s (i + 1) = true :=
  bd_ascii hw hi (hb ▸ hc)

theorem bd_of_ascii {s : Bytes} {i : Nat} (ha : bAt s i < 128) : isBoundary s i = true := by
  unfold bAt at ha
  unfold isBoundary
  by_cases h0 : i = 0
  · simp [h0]
  · cases hg : s[i]? with
    | none => simp [hg] at ha
    | some b =>
      simp only [hg] at ha
      simp only [beq_iff_eq, h0, if_false, isCont]
      have : b.toNat / 64 ≠ 2 := by omega
      simp [this]

theorem bd_run {s : Bytes} (hw : WF s) {i : Nat} (hi : isBoundary s i = true) :
    ∀ n, (∀ k, k < n → bAt s (i + k) < 128) → isBoundary s (i + n) = true
  | 0, _ => hi
  | n + 1, h => bd_ascii hw (bd_run hw hi n fun k hk => h k (Nat.lt_succ_of_lt hk)) (h n (Nat.lt_succ_self n))

theorem runLen_get {p : Nat → Bool} {s : Bytes} {i k : Nat} (h : k < runLen p s i) : p (bAt s (i + k)) = true := by
  have hpre := List.takeWhile_prefix (fun b : UInt8 => p b.toNat) (l := s.drop i)
  have hp := List.all_eq_true.mp List.all_takeWhile _ (List.getElem_mem h)
  rw [hpre.getElem h] at hp
  rw [bAt_drop (Nat.lt_of_lt_of_le h hpre.length_le)]; exact hp

theorem runLen_le (p : Nat → Bool) (s : Bytes) (i : Nat) : i + runLen p s i ≤ max i s.length := by
  have := (List.takeWhile_sublist (fun b : UInt8 => p b.toNat) (l := s.drop i)).length_le
  simp only [List.length_drop] at this
  unfold runLen; omega

theorem findByte_ge (stop : Nat → Bool) (s : Bytes) (k : Nat) : k ≤ findByte stop s k := by
  unfold findByte; omega

theorem findByte_stop {stop : Nat → Bool} {s : Bytes} {k : Nat} (h : findByte stop s k < s.length) :
    stop (bAt s (findByte stop s k)) = true := by
  unfold findByte at h ⊢
  rw [List.takeWhile_eq_take_findIdx_not, List.length_take, Nat.min_eq_left List.findIdx_le_length] at h ⊢
  have hlt : (s.drop k).findIdx (fun b => !!stop b.toNat) < (s.drop k).length := by
    simp only [List.length_drop]; omega
  rw [bAt_drop hlt]
  simpa using List.findIdx_getElem (w := hlt)

theorem isDigitB_ascii {x : Nat} (h : isDigitB x = true) : x < 128 := by
  simp [isDigitB] at h; omega
theorem isAlphaB_ascii {x : Nat} (h : isAlphaB x = true) : x < 128 := by
  simp [isAlphaB] at h; omega
theorem isAlnumB_ascii {x : Nat} (h : isAlnumB x = true) : x < 128 := by
  simp only [isAlnumB, Bool.or_eq_true] at h
  cases h with
  | inl h => exact isAlphaB_ascii h
  | inr h => exact isDigitB_ascii h
theorem isHexB_ascii {x : Nat} (h : isHexB x = true) : x < 128 := by
  simp [isHexB, isDigitB] at h; omega

theorem bd_runLen {s : Bytes} (hw : WF s) {p : Nat → Bool} (hp : ∀ x, p x = true → x < 128) {i : Nat}
    (hi : isBoundary s i = true) : isBoundary s (i + runLen p s i) = true :=
  bd_run hw hi _ (fun _ hk => hp _ (runLen_get hk))

theorem allHex_ascii {s : Bytes} {i n : Nat} (h : allHex s i n = true) : ∀ k, k < n → bAt s (i + k) < 128 := by
  intro k hk
  simp only [allHex, Bool.and_eq_true, decide_eq_true_eq] at h
  have hlt : k < (s.drop i).length := by rw [List.length_drop]; omega
  have hp := List.all_eq_true.mp h.2 _ (List.getElem_mem (List.length_take ▸ Nat.lt_min.mpr ⟨hk, hlt⟩))
  rw [List.getElem_take] at hp
  rw [bAt_drop hlt]; exact isHexB_ascii hp

theorem allHex_le {s : Bytes} {i n : Nat} (h : allHex s i n = true) : i + n ≤ s.length := by
  simp only [allHex, Bool.and_eq_true, decide_eq_true_eq] at h; exact h.1

/-! ## loops -/

/-- the panic tests of the model have the form `if !isBoundary s i then .panic else …` -/
theorem if_not {α : Type} {b : Bool} (h : b = true) {x y : α} : (if !b then x else y) = y := by
  subst h; rfl

/-- The loops run on fuel `f` with `s.length < f + i` at index `i`: true of the initial `s.length + 1` from anywhere,
    kept by a step of `k ≥ 1` bytes, and never `0` at a boundary. -/
theorem fuel_full (s : Bytes) (i : Nat) : s.length < s.length + 1 + i := Nat.lt_add_right _ (Nat.lt_succ_self _)

theorem fuel_step {n f i k : Nat} (hf : n < f + 1 + i) (hk : 1 ≤ k) : n < f + (i + k) := by omega

theorem fuel_zero {s : Bytes} {i : Nat} (hf : s.length < 0 + i) (hi : isBoundary s i = true) : False := by
  have := bd_le hi; omega

theorem spanChars_spec {s : Bytes} (hw : WF s) (p : Nat → Bool) : ∀ (f i : Nat), s.length < f + i →
    isBoundary s i = true → ∃ j, spanChars p s f i = some j ∧ isBoundary s j = true ∧ i ≤ j ∧
      ∀ c, decodeAt s j = some c → p c.1 = false := by
  intro f
  induction f with
  | zero => intro i hf hi; exact (fuel_zero hf hi).elim
  | succ f ih =>
    intro i hf hi
    unfold spanChars
    cases hd : decodeAt s i with
    | none => exact ⟨i, rfl, hi, Nat.le_refl _, fun c hc => by rw [hd] at hc; cases hc⟩
    | some c =>
      dsimp only
      have hs := char_step hw hi hd
      by_cases hp : p c.1 = true
      · rw [if_pos hp]
        obtain ⟨j, h1, h2, h3, h4⟩ := ih (i + c.2) (fuel_step hf hs.1) hs.2.1
        exact ⟨j, h1, h2, Nat.le_trans (Nat.le_add_right _ _) h3, h4⟩
      · rw [if_neg hp]
        exact ⟨i, rfl, hi, Nat.le_refl _, fun c' hc' => by rw [hd] at hc'; cases hc'; simpa using hp⟩

/-- where `sparql_skip_ws` stops: the next character is neither whitespace nor `#` -/
def WsStop (cls : CharClass) (s : Bytes) (w : Nat) : Prop :=
  (∀ c, decodeAt s w = some c → isWhite cls c.1 = false) ∧ bAt s w ≠ 0x23

theorem spanChars_stop {s : Bytes} (p : Nat → Bool) {i : Nat} (h : ∀ c, decodeAt s i = some c → p c.1 = false)
    (f : Nat) : spanChars p s (f + 1) i = some i := by
  unfold spanChars
  cases hd : decodeAt s i with
  | none => rfl
  | some c => simp [h c hd]

theorem skipWsLoop_spec {s : Bytes} (hw : WF s) (cls : CharClass) (lo : Nat) : ∀ (f i : Nat), s.length < f + i →
    isBoundary s i = true → lo ≤ i →
    ∃ w, skipWsLoop cls s f i = .ok w 0 0 ∧ isBoundary s w = true ∧ lo ≤ w ∧ WsStop cls s w := by
  intro f
  induction f with
  | zero => intro i hf hi _; exact (fuel_zero hf hi).elim
  | succ f ih =>
    intro i hf hi hlo
    unfold skipWsLoop
    obtain ⟨j, hj, hbj, hij, hstop⟩ := spanChars_spec hw (isWhite cls) (s.length + 1) i (fuel_full s i) hi
    have hlj := Nat.le_trans hlo hij
    rw [hj]
    dsimp only
    by_cases hc : (bAt s j == 0x23) = true
    · rw [if_pos hc]
      have hjl : j < s.length := bAt_lt (by rw [eq_of_beq hc]; decide)
      have hge := findByte_ge (fun b => b == 0x0D || b == 0x0A) s (j + 1)
      have hst := @findByte_stop (fun b => b == 0x0D || b == 0x0A) s (j + 1)
      generalize findByte (fun b => b == 0x0D || b == 0x0A) s (j + 1) = nl at hge hst ⊢
      by_cases hnl : nl < s.length
      · have hbn : isBoundary s nl = true := bd_of_ascii (by have := hst hnl; simp at this; omega)
        rw [if_pos hnl, if_pos hbn]
        exact ih nl (by omega) hbn (Nat.le_trans hlj (Nat.le_of_succ_le hge))
      · rw [if_neg hnl]
        exact ih s.length (by omega) (bd_length s) (Nat.le_trans hlj (Nat.le_of_lt hjl))
    · rw [if_neg hc]
      by_cases hji : (j == i) = true
      · rw [if_pos hji]
        exact ⟨j, rfl, hbj, hlj, hstop, by simpa using hc⟩
      · rw [if_neg hji]
        have : j ≠ i := by simpa using hji
        exact ih j (by omega) hbj hlj

theorem skipWsAt_spec {s : Bytes} (hw : WF s) (cls : CharClass) {b : Nat} (hb : isBoundary s b = true) :
    ∃ w, skipWsAt cls s b = .ok w 0 0 ∧ isBoundary s w = true ∧ b ≤ w := by
  obtain ⟨w, h1, h2, h3, _⟩ := skipWsLoop_spec hw cls b (s.length + 1) b (fuel_full s b) hb (Nat.le_refl b)
  exact ⟨w, h1, h2, h3⟩

theorem skipWsAt_of_stop (cls : CharClass) {s : Bytes} {w : Nat} (h : WsStop cls s w) :
    skipWsAt cls s w = .ok w 0 0 := by
  unfold skipWsAt skipWsLoop
  rw [spanChars_stop _ h.1]
  have : (bAt s w == 0x23) = false := by simpa using h.2
  simp [this]

/-! ## results -/

/-- what every scanner result satisfies on a well-formed string: all slice end points are boundaries, the token
    is non-empty and ends where the remaining input starts; no panic, no fuel exhaustion.
    `lo` = where the scanner's input started. -/
def Good (s : Bytes) (lo : Nat) : Res → Prop
  | .ok n a l => isBoundary s n = true ∧ isBoundary s a = true ∧ a + l = n ∧ 0 < l ∧ lo ≤ a
  | .err _ off l => isBoundary s off = true ∧ isBoundary s (off + l) = true
  | .panic => False
  | .fuel => False

/-- results of loops that compute an index (`.ok n 0 0`) -/
def GoodIdx (s : Bytes) (lo : Nat) : Res → Prop
  | .ok n _ _ => isBoundary s n = true ∧ lo ≤ n
  | .err _ off l => isBoundary s off = true ∧ isBoundary s (off + l) = true
  | .panic => False
  | .fuel => False

/-- an error slice from a boundary to the end of the input; this is `Good s lo (.err k i (s.length - i))` and
    `GoodIdx s lo (.err k i (s.length - i))` unfolded -/
theorem err_tail {s : Bytes} {i : Nat} (hi : isBoundary s i = true) :
    isBoundary s i = true ∧ isBoundary s (i + (s.length - i)) = true := by
  rw [Nat.add_sub_cancel' (bd_le hi)]
  exact ⟨hi, bd_length s⟩

theorem good_mono {s : Bytes} {lo lo' : Nat} {r : Res} (h : Good s lo r) (hl : lo' ≤ lo) : Good s lo' r := by
  cases r with
  | ok n a l => exact ⟨h.1, h.2.1, h.2.2.1, h.2.2.2.1, Nat.le_trans hl h.2.2.2.2⟩
  | _ => exact h

theorem good_of_goodIdx_notok {s : Bytes} {lo lo' : Nat} {r : Res} (h : GoodIdx s lo r)
    (hn : ∀ n a l, r ≠ .ok n a l) : Good s lo' r := by
  cases r with
  | ok n a l => exact absurd rfl (hn n a l)
  | _ => exact h

theorem good_notok_lo {s : Bytes} {lo lo' : Nat} {r : Res} (h : Good s lo r)
    (hn : ∀ n a l, r ≠ .ok n a l) : Good s lo' r := by
  cases r with
  | ok n a l => exact absurd rfl (hn n a l)
  | _ => exact h

theorem tokEnd_good {s : Bytes} {w te : Nat} (hw : isBoundary s w = true) (hte : isBoundary s te = true)
    (hlt : w < te) : Good s w (tokEnd s w te) := by
  unfold tokEnd
  rw [if_pos hte]
  exact ⟨hte, hw, Nat.add_sub_cancel' (Nat.le_of_lt hlt), Nat.sub_pos_of_lt hlt, Nat.le_refl _⟩

theorem isCh_len {c : Nat × Nat} {x : Nat} (h : isCh c x = true) : c.2 = 1 := by
  simp [isCh] at h; exact h.2

theorem bd_isCh {s : Bytes} {i x : Nat} {c : Nat × Nat} (hw : WF s) (hi : isBoundary s i = true)
    (hc : decodeAt s i = some c) (h : isCh c x = true) : isBoundary s (i + 1) = true := by
  rw [← isCh_len h]; exact (char_step hw hi hc).2.1

/-! ## sparql_variable -/

theorem varAt_good {s : Bytes} (hw : WF s) (cls : CharClass) {b : Nat} (hb : isBoundary s b = true) :
    Good s b (varAt cls s b) := by
  obtain ⟨w, hws, hbw, hle⟩ := skipWsAt_spec hw cls hb
  unfold varAt
  simp only [hws]
  cases hd : decodeAt s w with
  | none => exact err_tail hbw
  | some c =>
    dsimp only
    by_cases hq : (!(isCh c 0x3F || isCh c 0x24)) = true
    · rw [if_pos hq]; exact err_tail hbw
    have hs := char_step hw hbw hd
    rw [if_neg hq, if_not hs.2.1]
    obtain ⟨j, hj, hbj, hij, -⟩ := spanChars_spec hw (fun cp => isAlnum cls cp || cp == 0x5F) (s.length + 1)
      (w + c.2) (fuel_full s _) hs.2.1
    rw [hj]
    dsimp only
    by_cases hne : (j == w + c.2) = true
    · rw [if_pos hne]; exact err_tail hbw
    · rw [if_neg hne, if_not hbj]
      have : j ≠ w + c.2 := by simpa using hne
      exact ⟨hbj, hbw, by omega, by omega, hle⟩

/-! ## sparql_unicode_escape_len / sparql_iri -/

theorem uEscLen_spec {s : Bytes} (hw : WF s) {i : Nat} (hi : isBoundary s i = true) (hc : bAt s i = 0x5C) :
    uEscLen s i ≠ .panic ∧ ∀ e, uEscLen s i = .len e → isBoundary s (i + e) = true ∧ 0 < e := by
  have h1 := bd_byte hw hi hc
  unfold uEscLen
  generalize hd : (if bAt s (i + 1) == 0x75 then 4 else if bAt s (i + 1) == 0x55 then 8 else 0) = d
  dsimp only
  by_cases hd0 : (d == 0) = true
  · rw [if_pos hd0]; simp
  rw [if_neg hd0]
  by_cases hall : allHex s (i + 2) d = true
  · -- `\u` / `\U` is ASCII, and so are the hex digits: every index up to `i + 2 + d` is a boundary
    have hu : bAt s (i + 1) < 128 := by
      by_cases h75 : bAt s (i + 1) = 0x75
      · omega
      · by_cases h55 : bAt s (i + 1) = 0x55
        · omega
        · simp [h75, h55] at hd; simp [← hd] at hd0
    have h2 : isBoundary s (i + 2) = true := bd_ascii hw h1 hu
    have h3 : isBoundary s (i + (2 + d)) = true := by
      rw [← Nat.add_assoc]; exact bd_run hw h2 _ (allHex_ascii hall)
    rw [if_not hall, if_neg (by simp [h2, h3])]
    by_cases hv : validScalar (hexVal s (i + 2) d) = true
    · rw [if_not hv]
      refine ⟨by simp, fun e he => ?_⟩
      cases he
      exact ⟨h3, Nat.add_pos_left (by decide) d⟩
    · rw [if_pos (by simp [hv])]; simp
  · rw [if_pos (by simp [hall])]; simp

theorem iriLoop_good {s : Bytes} (hw : WF s) {w : Nat} (hbw : isBoundary s w = true) : ∀ (f i : Nat),
    s.length < f + i → isBoundary s i = true → w < i → Good s w (iriLoop s w f i) := by
  intro f
  induction f with
  | zero => intro i hf hi _; exact (fuel_zero hf hi).elim
  | succ f ih =>
    intro i hf hi hwi
    unfold iriLoop
    by_cases hlt : i < s.length
    · rw [if_pos hlt, if_not hi]
      by_cases hgt : (bAt s i == 0x3E) = true
      · have h1 := bd_byte hw hi (eq_of_beq hgt)
        rw [if_pos hgt]
        exact tokEnd_good hbw h1 (Nat.lt_succ_of_lt hwi)
      rw [if_neg hgt]
      by_cases hbs : (bAt s i == 0x5C) = true
      · rw [if_pos hbs]
        have hsp := uEscLen_spec hw hi (by simpa using hbs)
        cases he : uEscLen s i with
        | no => exact err_tail hi
        | panic => exact absurd he hsp.1
        | len e =>
          have := hsp.2 e he
          exact ih (i + e) (fuel_step hf this.2) this.1 (Nat.lt_add_right _ hwi)
      · rw [if_neg hbs]
        obtain ⟨c, hc⟩ := decodeAt_some_iff.mpr hlt
        have hs := char_step hw hi hc
        rw [hc]
        dsimp only
        by_cases hbad : (decide (c.1 ≤ 0x20) || Kolibrie.Extracted.iriForbidden.contains c.1) = true
        · rw [if_pos hbad]; exact err_tail hi
        · rw [if_neg hbad]; exact ih (i + c.2) (fuel_step hf hs.1) hs.2.1 (Nat.lt_add_right _ hwi)
    · rw [if_neg hlt]; exact err_tail hbw

theorem iriAt_good {s : Bytes} (hw : WF s) (cls : CharClass) {b : Nat} (hb : isBoundary s b = true) :
    Good s b (iriAt cls s b) := by
  obtain ⟨w, hws, hbw, hle⟩ := skipWsAt_spec hw cls hb
  unfold iriAt
  simp only [hws]
  by_cases hlt : (bAt s w != 0x3C) = true
  · rw [if_pos hlt]; exact err_tail hbw
  · rw [if_neg hlt]
    have h1 := bd_byte hw hbw (c := 0x3C) (by simpa using hlt)
    exact good_mono (iriLoop_good hw hbw _ _ (fuel_full s _) h1 (Nat.lt_succ_self w)) hle

/-! ## sparql_blank_node -/

theorem bnodeLoop_good {s : Bytes} (hw : WF s) (cls : CharClass) {w : Nat} (hbw : isBoundary s w = true) :
    ∀ (f i te : Nat), s.length < f + i → isBoundary s i = true → isBoundary s te = true → w < te → te ≤ i →
      Good s w (bnodeLoop cls s w f i te) := by
  intro f
  induction f with
  | zero => intro i te hf hi _ _ _; exact (fuel_zero hf hi).elim
  | succ f ih =>
    intro i te hf hi hte hwt hti
    have hwi : w < i := Nat.lt_of_lt_of_le hwt hti
    unfold bnodeLoop
    by_cases hlt : i < s.length
    · rw [if_pos hlt, if_not hi]
      obtain ⟨c, hc⟩ := decodeAt_some_iff.mpr hlt
      have hs := char_step hw hi hc
      rw [hc]
      dsimp only
      by_cases hpn : pnChars cls c.1 = true
      · rw [if_pos hpn]; exact ih _ _ (fuel_step hf hs.1) hs.2.1 hs.2.1 (Nat.lt_add_right _ hwi) (Nat.le_refl _)
      rw [if_neg hpn]
      by_cases hdot : isCh c 0x2E = true
      · rw [if_pos hdot]; exact ih _ _ (fuel_step hf (Nat.le_refl 1)) (bd_isCh hw hi hc hdot) hte hwt (Nat.le_succ_of_le hti)
      · rw [if_neg hdot]; exact tokEnd_good hbw hte hwt
    · rw [if_neg hlt]; exact tokEnd_good hbw hte hwt

theorem bnodeAt_good {s : Bytes} (hw : WF s) (cls : CharClass) {b : Nat} (hb : isBoundary s b = true) :
    Good s b (bnodeAt cls s b) := by
  obtain ⟨w, hws, hbw, hle⟩ := skipWsAt_spec hw cls hb
  unfold bnodeAt
  simp only [hws]
  by_cases htag : (!(bAt s w == 0x5F && bAt s (w + 1) == 0x3A)) = true
  · rw [if_pos htag]; exact err_tail hbw
  · rw [if_neg htag]
    have htag' : bAt s w = 0x5F ∧ bAt s (w + 1) = 0x3A := by simpa using htag
    have h2 := bd_byte hw (bd_byte hw hbw htag'.1) htag'.2
    cases hd : decodeAt s (w + 2) with
    | none => exact err_tail hbw
    | some c =>
      dsimp only
      have hs := char_step hw h2 hd
      by_cases hfirst : (!(pnCharsU cls c.1 || isDigitB c.1)) = true
      · rw [if_pos hfirst]; exact err_tail h2
      · rw [if_neg hfirst]
        exact good_mono (bnodeLoop_good hw cls hbw _ _ _ (fuel_full s _) hs.2.1 hs.2.1 (by omega) (Nat.le_refl _)) hle

/-! ## sparql_invalid_pn_prefix / sparql_prefixed_name -/

def PfxGood (s : Bytes) (colon : Nat) : PfxRes → Prop
  | .valid => True
  | .bad off => isBoundary s off = true ∧ off ≤ colon
  | .panic => False
  | .fuel => False

theorem char_le_bd {s : Bytes} {j k : Nat} {c : Nat × Nat} (hw : WF s) (hj : isBoundary s j = true)
    (hc : decodeAt s j = some c) (hk : isBoundary s k = true) (hjk : j < k) : j + c.2 ≤ k :=
  Nat.le_of_not_lt fun h => by rw [(char_step hw hj hc).2.2.2 k hjk h] at hk; cases hk

theorem pfxLoop_good {s : Bytes} (hw : WF s) (cls : CharClass) {colon : Nat} (hbc : isBoundary s colon = true) :
    ∀ (f j : Nat) (dot : Bool), s.length < f + j → isBoundary s j = true → j ≤ colon →
      (dot = true → 1 ≤ j ∧ isBoundary s (j - 1) = true) → PfxGood s colon (pfxLoop cls s colon f j dot) := by
  intro f
  induction f with
  | zero => intro j dot hf hj _ _; exact (fuel_zero hf hj).elim
  | succ f ih =>
    intro j dot hf hj hjc hdot
    unfold pfxLoop
    have hcl := bd_le hbc
    by_cases hlt : j < colon
    · rw [if_pos hlt]
      obtain ⟨c, hc⟩ := decodeAt_some_iff.mpr (by omega : j < s.length)
      have hs := char_step hw hj hc
      have hin := char_le_bd hw hj hc hbc hlt
      rw [hc]
      dsimp only
      by_cases hd : isCh c 0x2E = true
      · rw [if_pos hd]
        refine ih _ _ (fuel_step hf hs.1) hs.2.1 hin (fun _ => ⟨Nat.le_trans hs.1 (Nat.le_add_left _ _), ?_⟩)
        rw [isCh_len hd]; simpa using hj
      rw [if_neg hd]
      by_cases hpn : pnChars cls c.1 = true
      · rw [if_pos hpn]; exact ih _ _ (fuel_step hf hs.1) hs.2.1 hin nofun
      · rw [if_neg hpn, if_pos hj]; exact ⟨hj, hjc⟩
    · rw [if_neg hlt]
      by_cases hd : dot = true
      · have hjeq : j = colon := Nat.le_antisymm hjc (Nat.le_of_not_lt hlt)
        subst hjeq
        have := hdot hd
        rw [if_pos hd, if_pos (by simp [this.1, this.2])]
        exact ⟨this.2, Nat.sub_le _ _⟩
      · rw [if_neg hd]; trivial

theorem invalidPfx_good {s : Bytes} (hw : WF s) (cls : CharClass) {w colon : Nat} (hbw : isBoundary s w = true)
    (hbc : isBoundary s colon = true) (hwc : w ≤ colon) : PfxGood s colon (invalidPfx cls s w colon) := by
  unfold invalidPfx
  by_cases hlt : colon ≤ w
  · rw [if_pos hlt]; trivial
  · rw [if_neg hlt]
    cases hd : decodeAt s w with
    | none => trivial
    | some c =>
      dsimp only
      have hs := char_step hw hbw hd
      have hin := char_le_bd hw hbw hd hbc (by omega)
      by_cases hb : (!pnCharsBase cls c.1) = true
      · rw [if_pos hb]; exact ⟨hbw, hwc⟩
      · rw [if_neg hb, if_neg (by simp [hs.2.1, hin])]
        exact pfxLoop_good hw cls hbc _ _ _ (fuel_full s _) hs.2.1 hin nofun

theorem pnameLoop_good {s : Bytes} (hw : WF s) (cls : CharClass) {w : Nat} (hbw : isBoundary s w = true) :
    ∀ (f i te : Nat) (first : Bool), s.length < f + i → isBoundary s i = true → isBoundary s te = true → w < te →
      te ≤ i → Good s w (pnameLoop cls s w f i te first) := by
  intro f
  induction f with
  | zero => intro i te first hf hi _ _ _; exact (fuel_zero hf hi).elim
  | succ f ih =>
    intro i te first hf hi hte hwt hti
    have hwi : w < i := Nat.lt_of_lt_of_le hwt hti
    unfold pnameLoop
    by_cases hlt : i < s.length
    · rw [if_pos hlt, if_not hi]
      obtain ⟨c, hc⟩ := decodeAt_some_iff.mpr hlt
      have hs := char_step hw hi hc
      rw [hc]
      dsimp only
      by_cases hord : pnOrdinary cls first c.1 = true
      · rw [if_pos hord]; exact ih _ _ _ (fuel_step hf hs.1) hs.2.1 hs.2.1 (Nat.lt_add_right _ hwi) (Nat.le_refl _)
      rw [if_neg hord]
      by_cases hdot : isCh c 0x2E = true
      · rw [if_pos hdot]
        by_cases hf1 : first = true
        · rw [if_pos hf1]; exact tokEnd_good hbw hte hwt
        · rw [if_neg hf1]; exact ih _ _ _ (fuel_step hf (Nat.le_refl 1)) (bd_isCh hw hi hc hdot) hte hwt (Nat.le_succ_of_le hti)
      rw [if_neg hdot]
      by_cases hpct : isCh c 0x25 = true
      · rw [if_pos hpct]
        by_cases hesc : (decide (s.length - i < 3) || !isHexB (bAt s (i + 1)) || !isHexB (bAt s (i + 2))) = true
        · rw [if_pos hesc]; exact err_tail hi
        · rw [if_neg hesc]
          have hesc' : (3 ≤ s.length - i ∧ isHexB (bAt s (i + 1)) = true) ∧ isHexB (bAt s (i + 2)) = true := by
            simpa [not_or] using hesc
          have h2 := bd_ascii hw (bd_isCh hw hi hc hpct) (isHexB_ascii hesc'.1.2)
          have h3 := bd_ascii hw h2 (isHexB_ascii hesc'.2)
          exact ih _ _ _ (fuel_step hf (by decide)) h3 h3 (Nat.lt_add_right _ hwi) (Nat.le_refl _)
      rw [if_neg hpct]
      by_cases hbs : isCh c 0x5C = true
      · have h1 := bd_isCh hw hi hc hbs
        rw [if_pos hbs, if_not h1]
        cases hd : decodeAt s (i + 1) with
        | none => exact err_tail hi
        | some e =>
          dsimp only
          have hs2 := char_step hw h1 hd
          by_cases hle : (!localEscapes.contains e.1) = true
          · rw [if_pos hle]; exact err_tail hi
          · rw [if_neg hle]; exact ih _ _ _ (by omega) hs2.2.1 hs2.2.1 (by omega) (Nat.le_refl _)
      · rw [if_neg hbs]; exact tokEnd_good hbw hte hwt
    · rw [if_neg hlt]; exact tokEnd_good hbw hte hwt

theorem pnameAt_good {s : Bytes} (hw : WF s) (cls : CharClass) {b : Nat} (hb : isBoundary s b = true) :
    Good s b (pnameAt cls s b) := by
  obtain ⟨w, hws, hbw, hle⟩ := skipWsAt_spec hw cls hb
  unfold pnameAt
  simp only [hws]
  generalize hcol : findByte (fun x => x == 0x3A) s w = colon
  have hge : w ≤ colon := by rw [← hcol]; exact findByte_ge _ _ _
  by_cases hlt : s.length ≤ colon
  · rw [if_pos hlt]; exact err_tail hbw
  · rw [if_neg hlt]
    have hst : bAt s colon = 0x3A := by
      have := findByte_stop (stop := fun x => x == 0x3A) (s := s) (k := w) (by omega)
      rw [hcol] at this; simpa using this
    have hbc : isBoundary s colon = true := bd_of_ascii (by omega)
    have hbc1 := bd_byte hw hbc hst
    rw [if_neg (by simp [hbc, hge])]
    have hp := invalidPfx_good hw cls hbw hbc hge
    generalize invalidPfx cls s w colon = r at hp ⊢
    cases r with
    | bad off => exact ⟨hp.1, by rw [Nat.add_sub_cancel' hp.2]; exact hbc⟩
    | panic | fuel => exact hp
    | valid =>
      dsimp only
      rw [if_not hbc1]
      exact good_mono (pnameLoop_good hw cls hbw _ _ _ _ (fuel_full s _) hbc1 hbc1 (by omega) (Nat.le_refl _)) hle

/-! ## sparql_numeric_literal -/

theorem numSignEnd_spec {s : Bytes} (hw : WF s) {i : Nat} (hi : isBoundary s i = true) :
    isBoundary s (numSignEnd s i) = true ∧ i ≤ numSignEnd s i := by
  unfold numSignEnd
  by_cases h : (bAt s i == 0x2B || bAt s i == 0x2D) = true
  · rw [if_pos h]
    have : bAt s i < 128 := by
      simp only [Bool.or_eq_true, beq_iff_eq] at h; omega
    exact ⟨bd_ascii hw hi this, Nat.le_succ i⟩
  · rw [if_neg h]; exact ⟨hi, Nat.le_refl _⟩

theorem digitsEnd_spec {s : Bytes} (hw : WF s) {i : Nat} (hi : isBoundary s i = true) :
    isBoundary s (digitsEnd s i) = true ∧ i ≤ digitsEnd s i :=
  ⟨bd_runLen hw (fun _ => isDigitB_ascii) hi, Nat.le_add_right _ _⟩

theorem numFracEnd_spec {s : Bytes} (hw : WF s) {i : Nat} (hi : isBoundary s i = true) :
    isBoundary s (numFracEnd s i) = true ∧ i ≤ numFracEnd s i ∧ (numFracDigits s i ≠ 0 → i < numFracEnd s i) := by
  unfold numFracEnd numFracDigits
  by_cases h : numHasFrac s i = true
  · rw [if_pos h, if_pos h]
    have hdot : bAt s i = 0x2E := by
      simp only [numHasFrac, Bool.and_eq_true, beq_iff_eq] at h; exact h.1
    have := digitsEnd_spec hw (bd_byte hw hi hdot)
    exact ⟨this.1, Nat.le_of_succ_le this.2, fun _ => this.2⟩
  · rw [if_neg h, if_neg h]; exact ⟨hi, Nat.le_refl _, fun h => absurd rfl h⟩

theorem numExpEnd_spec {s : Bytes} (hw : WF s) {i : Nat} (hi : isBoundary s i = true) :
    isBoundary s (numExpEnd s i) = true ∧ i ≤ numExpEnd s i := by
  unfold numExpEnd
  by_cases h : (bAt s i == 0x65 || bAt s i == 0x45) = true
  · rw [if_pos h]
    have he : bAt s i < 128 := by
      simp only [Bool.or_eq_true, beq_iff_eq] at h; omega
    have h2 := numSignEnd_spec hw (bd_ascii hw hi he)
    have h3 := digitsEnd_spec hw h2.1
    by_cases hnod : (digitsEnd s (numSignEnd s (i + 1)) == numSignEnd s (i + 1)) = true
    · rw [if_pos hnod]; exact ⟨hi, Nat.le_refl _⟩
    · rw [if_neg hnod]; exact ⟨h3.1, Nat.le_trans (Nat.le_of_succ_le h2.2) h3.2⟩
  · rw [if_neg h]; exact ⟨hi, Nat.le_refl _⟩

theorem numAt_good {s : Bytes} (hw : WF s) (cls : CharClass) {b : Nat} (hb : isBoundary s b = true) :
    Good s b (numAt cls s b) := by
  obtain ⟨w, hws, hbw, hle⟩ := skipWsAt_spec hw cls hb
  unfold numAt
  simp only [hws]
  have h0 := numSignEnd_spec hw hbw
  have h1 := digitsEnd_spec hw h0.1
  have h2 := numFracEnd_spec hw h1.1
  have h3 := numExpEnd_spec hw h2.1
  by_cases hdig : (digitsEnd s (numSignEnd s w) - numSignEnd s w == 0 &&
      numFracDigits s (digitsEnd s (numSignEnd s w)) == 0) = true
  · rw [if_pos hdig]; exact err_tail hbw
  · rw [if_neg hdig]
    have hdig' : digitsEnd s (numSignEnd s w) - numSignEnd s w = 0 →
        numFracDigits s (digitsEnd s (numSignEnd s w)) ≠ 0 := by simpa using hdig
    generalize numExpEnd s (numFracEnd s (digitsEnd s (numSignEnd s w))) = e at h3 ⊢
    have hpos : w < e := by
      by_cases hint : digitsEnd s (numSignEnd s w) - numSignEnd s w = 0
      · have := h2.2.2 (hdig' hint); omega
      · omega
    unfold numFinish
    rw [if_not h3.1]
    have hok : Good s b (.ok e w (e - w)) := ⟨h3.1, hbw, by omega, by omega, hle⟩
    cases hd : decodeAt s e with
    | none => exact hok
    | some c =>
      dsimp only
      by_cases hal : (isAlpha cls c.1 || c.1 == 0x5F) = true
      · rw [if_pos hal]; exact err_tail hbw
      · rw [if_neg hal]; exact hok

/-! ## sparql_quoted_literal -/

theorem litLoop_good {s : Bytes} (hw : WF s) {w q : Nat} (triple : Bool) (hbw : isBoundary s w = true)
    (hq : q < 128) (lo : Nat) : ∀ (f i : Nat), s.length < f + i → isBoundary s i = true → lo ≤ i →
      GoodIdx s lo (litLoop s w q triple f i) := by
  intro f
  induction f with
  | zero => intro i hf hi _; exact (fuel_zero hf hi).elim
  | succ f ih =>
    intro i hf hi hlo
    unfold litLoop
    by_cases hlt : i < s.length
    · rw [if_pos hlt, if_not hi]
      by_cases hdel : startsDelim s i q triple = true
      · rw [if_pos hdel]
        simp only [startsDelim, Bool.and_eq_true, beq_iff_eq, Bool.or_eq_true, Bool.not_eq_true'] at hdel
        have h1 := bd_byte hw hi hdel.1 hq
        refine ⟨?_, Nat.le_trans hlo (Nat.le_add_right _ _)⟩
        cases triple with
        | false => exact h1
        | true =>
          have hd2 := hdel.2.resolve_left nofun
          exact bd_byte hw (bd_byte hw h1 hd2.1 hq) (show bAt s (i + 1 + 1) = q from hd2.2) hq
      · rw [if_neg hdel]
        obtain ⟨c, hc⟩ := decodeAt_some_iff.mpr hlt
        have hs := char_step hw hi hc
        rw [hc]
        dsimp only
        by_cases hnl : (!triple && (isCh c 0x0D || isCh c 0x0A)) = true
        · rw [if_pos hnl]; exact err_tail hi
        rw [if_neg hnl]
        by_cases hbs : isCh c 0x5C = true
        · have h1 := bd_isCh hw hi hc hbs
          rw [if_pos hbs, if_not h1]
          cases hd : decodeAt s (i + 1) with
          | none => exact err_tail hi
          | some e =>
            have hs2 := char_step hw h1 hd
            dsimp only
            by_cases hse : simpleEscapes.contains e.1 = true
            · rw [if_pos hse]; exact ih _ (by omega) hs2.2.1 (by omega)
            rw [if_neg hse]
            by_cases hu : (e.1 == 0x75 || e.1 == 0x55) = true
            · rw [if_pos hu, if_not hs2.2.1]
              generalize (if (e.1 == 0x75) = true then 4 else 8) = digits
              by_cases hall : allHex s (i + 1 + e.2) digits = true
              · have h3 := bd_run hw hs2.2.1 _ (allHex_ascii hall)
                rw [if_not hall, if_not h3]
                by_cases hv : validScalar (hexVal s (i + 1 + e.2) digits) = true
                · rw [if_not hv]; exact ih _ (by omega) h3 (by omega)
                · rw [if_pos (by simp [hv])]; exact err_tail hi
              · rw [if_pos (by simp [hall])]; exact err_tail hi
            · rw [if_neg hu]; exact err_tail hi
        · rw [if_neg hbs]; exact ih _ (fuel_step hf hs.1) hs.2.1 (Nat.le_add_right_of_le hlo)
    · rw [if_neg hlt]; exact err_tail hbw

theorem langLoop_good {s : Bytes} (hw : WF s) {le : Nat} (hble : isBoundary s le = true) (lo : Nat) :
    ∀ (f e : Nat), s.length < f + e → isBoundary s e = true → lo ≤ e → GoodIdx s lo (langLoop s le f e) := by
  intro f
  induction f with
  | zero => intro e hf he _; exact (fuel_zero hf he).elim
  | succ f ih =>
    intro e hf he hlo
    unfold langLoop
    by_cases hdash : (bAt s e == 0x2D) = true
    · have h1 := bd_byte hw he (eq_of_beq hdash)
      rw [if_pos hdash]
      dsimp only
      rw [if_not h1]
      by_cases hn : (runLen isAlnumB s (e + 1) == 0) = true
      · rw [if_pos hn]; exact err_tail hble
      · rw [if_neg hn]
        exact ih _ (by omega) (bd_runLen hw (fun _ => isAlnumB_ascii) h1) (by omega)
    · rw [if_neg hdash]; exact ⟨he, hlo⟩

theorem litSuffix_good {s : Bytes} (hw : WF s) (cls : CharClass) {w le : Nat} (hbw : isBoundary s w = true)
    (hble : isBoundary s le = true) (hwl : w < le) : Good s w (litSuffix cls s w le) := by
  unfold litSuffix
  rw [if_not hble]
  by_cases hat : (bAt s le == 0x40) = true
  · rw [if_pos hat]
    have h1 := bd_byte hw hble (eq_of_beq hat)
    by_cases hno : (runLen isAlphaB s (le + 1) == 0) = true
    · rw [if_pos hno]; exact err_tail hble
    rw [if_neg hno]
    have hl := langLoop_good hw hble (le + 1) (s.length + 1) _ (fuel_full s _)
      (bd_runLen hw (fun _ => isAlphaB_ascii) h1) (Nat.le_add_right _ _)
    generalize langLoop s le (s.length + 1) (le + 1 + runLen isAlphaB s (le + 1)) = r at hl ⊢
    cases r with
    | ok e x y =>
      dsimp only
      rw [if_not hl.1]
      have hok := tokEnd_good hbw hl.1 (Nat.lt_trans hwl hl.2)
      cases hd : decodeAt s e with
      | none => exact hok
      | some d =>
        dsimp only
        by_cases hbad : (isAlnumB d.1 || d.1 == 0x2D || d.1 == 0x5F) = true
        · rw [if_pos hbad]; exact err_tail hble
        · rw [if_neg hbad]; exact hok
    | _ => exact hl
  · rw [if_neg hat]
    by_cases hdt : (bAt s le == 0x5E && bAt s (le + 1) == 0x5E) = true
    · rw [if_pos hdt]
      have hdt' : bAt s le = 0x5E ∧ bAt s (le + 1) = 0x5E := by simpa using hdt
      have h2 := bd_byte hw (bd_byte hw hble hdt'.1) hdt'.2
      obtain ⟨d, hds, hbd, hdle⟩ := skipWsAt_spec hw cls h2
      rw [show le + 1 + 1 = le + 2 from rfl] at hds
      simp only [hds]
      -- the datatype is an IRI or, failing that, a prefixed name; either token ends the literal
      have hiri := iriAt_good hw cls hbd
      generalize iriAt cls s d = r at hiri ⊢
      cases r with
      | ok n a l => exact tokEnd_good hbw hiri.1 (by have := hiri.2.2; omega)
      | err k o l =>
        dsimp only
        have hpn := pnameAt_good hw cls hbd
        generalize pnameAt cls s d = r2 at hpn ⊢
        cases r2 with
        | ok n a l => exact tokEnd_good hbw hpn.1 (by have := hpn.2.2; omega)
        | _ => exact hpn
      | _ => exact hiri
    · rw [if_neg hdt]
      exact tokEnd_good hbw hble hwl

theorem litAt_good {s : Bytes} (hw : WF s) (cls : CharClass) {b : Nat} (hb : isBoundary s b = true) :
    Good s b (litAt cls s b) := by
  obtain ⟨w, hws, hbw, hle⟩ := skipWsAt_spec hw cls hb
  unfold litAt
  simp only [hws]
  cases hd : decodeAt s w with
  | none => exact err_tail hbw
  | some c =>
    dsimp only
    by_cases hquote : (!(isCh c 0x27 || isCh c 0x22)) = true
    · rw [if_pos hquote]; exact err_tail hbw
    rw [if_neg hquote]
    have hq : c.1 < 128 ∧ c.2 = 1 := by
      have : ¬c.1 = 0x27 ∨ ¬c.2 = 1 → c.1 = 0x22 ∧ c.2 = 1 := by simpa [isCh] using hquote
      omega
    have hstart : isBoundary s (w + (if litTriple s w c.1 then 3 else 1)) = true := by
      by_cases ht : litTriple s w c.1 = true
      · rw [if_pos ht]
        have ht' : (bAt s w = c.1 ∧ bAt s (w + 1) = c.1) ∧ bAt s (w + 2) = c.1 := by
          simpa [litTriple] using ht
        exact bd_byte hw (bd_byte hw (bd_byte hw hbw ht'.1.1 hq.1) ht'.1.2 hq.1) (show bAt s (w + 1 + 1) = c.1 from ht'.2) hq.1
      · rw [if_neg ht, ← hq.2]; exact (char_step hw hbw hd).2.1
    have hl := litLoop_good hw (litTriple s w c.1) hbw hq.1 (w + 1) (s.length + 1) _
      (fuel_full s _) hstart (by split <;> omega)
    generalize litLoop s w c.1 (litTriple s w c.1) (s.length + 1) (w + (if litTriple s w c.1 then 3 else 1)) = r at hl ⊢
    cases r with
    | ok le x y => exact good_mono (litSuffix_good hw cls hbw hl.1 hl.2) hle
    | _ => exact hl

/-! ## what `Good` gives -/

theorem good_no_panic {s : Bytes} {lo : Nat} {r : Res} (h : Good s lo r) : r ≠ .panic := by
  intro hr; rw [hr] at h; exact h
theorem good_no_fuel {s : Bytes} {lo : Nat} {r : Res} (h : Good s lo r) : r ≠ .fuel := by
  intro hr; rw [hr] at h; exact h
theorem good_boundary {s : Bytes} {lo : Nat} {r : Res} {n a l : Nat} (h : Good s lo r) (hr : r = .ok n a l) :
    n ≤ s.length ∧ isBoundary s n = true ∧ isBoundary s a = true ∧ isBoundary s (a + l) = true ∧ a + l = n := by
  rw [hr] at h
  exact ⟨bd_le h.1, h.1, h.2.1, by rw [h.2.2.1]; exact h.1, h.2.2.1⟩
theorem good_err_boundary {s : Bytes} {lo : Nat} {r : Res} {k : String} {off len : Nat} (h : Good s lo r)
    (hr : r = .err k off len) :
    off + len ≤ s.length ∧ isBoundary s off = true ∧ isBoundary s (off + len) = true := by
  rw [hr] at h
  exact ⟨bd_le h.2, h.1, h.2⟩
theorem good_progress {s : Bytes} {lo : Nat} {r : Res} {n a l : Nat} (h : Good s lo r) (hr : r = .ok n a l) :
    0 < l := by
  rw [hr] at h; exact h.2.2.2.1

/-! ## the entry points: each scanner called on the whole of `s` -/

/-- `sparql_skip_ws` never fails, and the returned slice starts on a character boundary of the input -/
theorem skipWs_boundary (cls : CharClass) {s : Bytes} (hw : WF s) :
    ∃ w, skipWs cls s = .ok w 0 0 ∧ w ≤ s.length ∧ isBoundary s w = true := by
  obtain ⟨w, h1, h2, _⟩ := skipWsAt_spec hw cls (bd_zero s)
  exact ⟨w, h1, bd_le h2, h2⟩

/-- skipping again from where `sparql_skip_ws` stopped skips nothing, from any boundary (what the nested calls
    `scanner(sparql_skip_ws(x))` rely on) -/
theorem skipWsAt_idempotent (cls : CharClass) {s : Bytes} (hw : WF s) {b w x y : Nat}
    (hb : isBoundary s b = true) (h : skipWsAt cls s b = .ok w x y) : skipWsAt cls s w = .ok w 0 0 := by
  obtain ⟨w', h1, _, _, h4⟩ := skipWsLoop_spec hw cls b (s.length + 1) b (fuel_full s b) hb (Nat.le_refl b)
  unfold skipWsAt at h
  rw [h1] at h
  cases h
  exact skipWsAt_of_stop cls h4

theorem skipWs_idempotent (cls : CharClass) {s : Bytes} (hw : WF s) {w x y : Nat}
    (h : skipWs cls s = .ok w x y) : skipWsAt cls s w = .ok w 0 0 :=
  skipWsAt_idempotent cls hw (bd_zero s) h

theorem scanVar_good (cls : CharClass) {s : Bytes} (hw : WF s) : Good s 0 (scanVar cls s) :=
  varAt_good hw cls (bd_zero s)

theorem scanIri_good (cls : CharClass) {s : Bytes} (hw : WF s) : Good s 0 (scanIri cls s) :=
  iriAt_good hw cls (bd_zero s)

theorem scanBnode_good (cls : CharClass) {s : Bytes} (hw : WF s) : Good s 0 (scanBnode cls s) :=
  bnodeAt_good hw cls (bd_zero s)

theorem scanPname_good (cls : CharClass) {s : Bytes} (hw : WF s) : Good s 0 (scanPname cls s) :=
  pnameAt_good hw cls (bd_zero s)

theorem scanNum_good (cls : CharClass) {s : Bytes} (hw : WF s) : Good s 0 (scanNum cls s) :=
  numAt_good hw cls (bd_zero s)

theorem scanLit_good (cls : CharClass) {s : Bytes} (hw : WF s) : Good s 0 (scanLit cls s) :=
  litAt_good hw cls (bd_zero s)

/-! ## non-vacuity: evaluations on multi-byte inputs -/

/-- é (U+00E9) and 語 (U+8A9E) alphabetic, U+00A0 whitespace -/
def exCls : CharClass :=
  { alpha := fun cp => cp == 0xE9 || cp == 0x8A9E, numeric := fun _ => false, white := fun cp => cp == 0xA0 }

/-- `<http://é/語> .` -/
def exIri : Bytes := [0x3C, 0x68, 0x74, 0x74, 0x70, 0x3A, 0x2F, 0x2F, 0xC3, 0xA9, 0x2F, 0xE8, 0xAA, 0x9E, 0x3E, 0x20, 0x2E]
example : WF exIri := by unfold WF; decide +kernel
example : scanIri exCls exIri = .ok 15 0 15 := by decide +kernel
/-- ` U+00A0 ?é1 ` -/
def exVar : Bytes := [0x20, 0xC2, 0xA0, 0x3F, 0xC3, 0xA9, 0x31, 0x20]
example : WF exVar := by unfold WF; decide +kernel
example : skipWs exCls exVar = .ok 3 0 0 := by decide +kernel
example : scanVar exCls exVar = .ok 7 3 4 := by decide +kernel
/-- `é:語.` — the trailing dot is not part of the name -/
def exPname : Bytes := [0xC3, 0xA9, 0x3A, 0xE8, 0xAA, 0x9E, 0x2E]
example : WF exPname := by unfold WF; decide +kernel
example : scanPname exCls exPname = .ok 6 0 6 := by decide +kernel
/-- `é.:a` — the error slice of a prefix ending in a dot is the middle slice `&prefix[prefix.len() - 1..]` -/
def exPnameDot : Bytes := [0xC3, 0xA9, 0x2E, 0x3A, 0x61]
example : scanPname exCls exPnameDot = .err "Verify" 2 1 := by decide +kernel
/-- `_:é.語.` -/
def exBnode : Bytes := [0x5F, 0x3A, 0xC3, 0xA9, 0x2E, 0xE8, 0xAA, 0x9E, 0x2E]
example : WF exBnode := by unfold WF; decide +kernel
example : scanBnode exCls exBnode = .ok 8 0 8 := by decide +kernel
/-- `'é'@en-GB;` -/
def exLit : Bytes := [0x27, 0xC3, 0xA9, 0x27, 0x40, 0x65, 0x6E, 0x2D, 0x47, 0x42, 0x3B]
example : WF exLit := by unfold WF; decide +kernel
example : scanLit exCls exLit = .ok 10 0 10 := by decide +kernel
/-- `"é"^^<é>` -/
def exLitDt : Bytes := [0x22, 0xC3, 0xA9, 0x22, 0x5E, 0x5E, 0x3C, 0xC3, 0xA9, 0x3E]
example : scanLit exCls exLitDt = .ok 10 0 10 := by decide +kernel
/-- `-1.5e3é`: a letter right after the number is an error over the whole input -/
def exNum : Bytes := [0x2D, 0x31, 0x2E, 0x35, 0x65, 0x33, 0xC3, 0xA9]
example : WF exNum := by unfold WF; decide +kernel
example : scanNum exCls exNum = .err "Verify" 0 8 := by decide +kernel
example : scanNum exCls (exNum.take 6) = .ok 6 0 6 := by decide +kernel
/-- `<é >`: the error slice starts after the two-byte character -/
example : scanIri exCls [0x3C, 0xC3, 0xA9, 0x20, 0x3E] = .err "Verify" 3 2 := by decide +kernel
/-- `panic` is reachable in the model, so `good_no_panic` says something: `<\u00e9` followed by a stray continuation
    byte (not a `&str`) makes `&input[2..end]` in `sparql_unicode_escape_len` a non-boundary slice -/
def exBad : Bytes := [0x3C, 0x5C, 0x75, 0x30, 0x30, 0x65, 0x39, 0xA9, 0x3E]
example : ¬ WF exBad := by unfold WF; decide +kernel
example : scanIri exCls exBad = .panic := by decide +kernel

end Kolibrie.Scan
