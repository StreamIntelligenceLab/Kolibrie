import Kolibrie.Model.Prov
import Kolibrie.Spec.Prov
/-
Matching and join lemmas: the jobs examined in a round are exactly the rule instances whose premises lie in
`all` with at least one premise in `delta` (`jobs_sound`, `jobs_complete`).
-/
namespace Kolibrie.Prov

def Ext (σ : String → Nat) (b : Binding) : Prop := ∀ v x, bget b v = some x → σ v = x

def BExt (b b' : Binding) : Prop := ∀ v x, bget b v = some x → bget b' v = some x

theorem BExt.refl (b : Binding) : BExt b b := fun _ _ h => h
theorem BExt.trans {a b c : Binding} (h1 : BExt a b) (h2 : BExt b c) : BExt a c := fun v x h => h2 v x (h1 v x h)

theorem bget_cons (v : String) (x : Nat) (b : Binding) (u : String) :
    bget ((v, x) :: b) u = if v = u then some x else bget b u := rfl

theorem ext_valOf (b : Binding) : Ext (valOf b) b := by
  intro v x h; simp only [valOf, h, Option.getD_some]

/-! ### terms: what a successful match binds, and how a bound term reads under a valuation -/

theorem matchTerm_sound {t : Term} {x : Nat} {b b' : Binding} (h : matchTerm t x b = some b') :
    BExt b b' ∧ instTermB b' t = some x := by
  cases t with
  | const c =>
    by_cases hc : c = x
    · simp only [matchTerm, if_pos hc, Option.some.injEq] at h
      subst h hc; exact ⟨BExt.refl _, rfl⟩
    · simp only [matchTerm, if_neg hc, reduceCtorEq] at h
  | var v =>
    cases hb : bget b v with
    | some y =>
      by_cases hy : y = x
      · simp only [matchTerm, hb, if_pos hy, Option.some.injEq] at h
        subst h hy; exact ⟨BExt.refl _, hb⟩
      · simp only [matchTerm, hb, if_neg hy, reduceCtorEq] at h
    | none =>
      simp only [matchTerm, hb, Option.some.injEq] at h
      subst h
      refine ⟨fun u z hu => ?_, by simp only [instTermB, bget_cons, if_true]⟩
      rw [bget_cons, if_neg (fun hvu => by rw [← hvu, hb] at hu; cases hu)]
      exact hu

theorem matchTerm_complete {σ : String → Nat} {t : Term} {b : Binding} (he : Ext σ b) :
    ∃ b', matchTerm t (instTermV σ t) b = some b' ∧ Ext σ b' := by
  cases t with
  | const c => exact ⟨b, by simp only [matchTerm, instTermV, if_true], he⟩
  | var v =>
    cases hb : bget b v with
    | some y => exact ⟨b, by simp only [matchTerm, instTermV, hb, he v y hb, if_true], he⟩
    | none =>
      refine ⟨(v, σ v) :: b, by simp only [matchTerm, instTermV, hb], fun u z hu => ?_⟩
      rw [bget_cons] at hu
      by_cases hvu : v = u
      · rw [if_pos hvu] at hu; cases hu; rw [hvu]
      · rw [if_neg hvu] at hu; exact he u z hu

theorem instTermB_mono {t : Term} {x : Nat} {b b' : Binding} (hb : BExt b b') (h : instTermB b t = some x) :
    instTermB b' t = some x := by
  cases t with
  | const c => exact h
  | var v => exact hb v x h

theorem instTermB_ext {σ : String → Nat} {b : Binding} {t : Term} {x : Nat} (he : Ext σ b)
    (h : instTermB b t = some x) : instTermV σ t = x := by
  cases t with
  | const c => exact Option.some.inj h
  | var v => exact he v x h

theorem bound_of_instTermB {b : Binding} {t : Term} {x : Nat} (h : instTermB b t = some x) :
    ∀ v ∈ termVars t, ∃ y, bget b v = some y := by
  cases t with
  | const c => intro v hv; cases hv
  | var u => intro v hv; exact ⟨x, List.mem_singleton.mp hv ▸ h⟩

theorem instTermV_congr {σ τ : String → Nat} {t : Term} (h : ∀ v ∈ termVars t, σ v = τ v) :
    instTermV σ t = instTermV τ t := by
  cases t with
  | const c => rfl
  | var v => exact h v List.mem_cons_self

/-! ### patterns: the same facts, component by component -/

theorem instPatB_some {b : Binding} {p : Pat} {f : Fact} :
    instPatB b p = some f ↔ instTermB b p.s = some f.s ∧ instTermB b p.p = some f.p ∧ instTermB b p.o = some f.o := by
  cases f
  simp only [instPatB, Option.bind_eq_some_iff, Option.map_eq_some_iff, Fact.mk.injEq]
  constructor
  · rintro ⟨_, hs, _, hp, _, ho, rfl, rfl, rfl⟩; exact ⟨hs, hp, ho⟩
  · rintro ⟨hs, hp, ho⟩; exact ⟨_, hs, _, hp, _, ho, rfl, rfl, rfl⟩

theorem instPatB_mono {p : Pat} {f : Fact} {b b' : Binding} (hb : BExt b b') (h : instPatB b p = some f) :
    instPatB b' p = some f := by
  rw [instPatB_some] at *
  exact ⟨instTermB_mono hb h.1, instTermB_mono hb h.2.1, instTermB_mono hb h.2.2⟩

theorem instPatB_ext {σ : String → Nat} {b : Binding} {p : Pat} {f : Fact} (he : Ext σ b)
    (h : instPatB b p = some f) : instV σ p = f := by
  rw [instPatB_some] at h
  cases f
  simp only [instV, Fact.mk.injEq]
  exact ⟨instTermB_ext he h.1, instTermB_ext he h.2.1, instTermB_ext he h.2.2⟩

theorem bound_of_instPatB {b : Binding} {p : Pat} {f : Fact} (h : instPatB b p = some f) :
    ∀ v ∈ patVars p, ∃ y, bget b v = some y := by
  rw [instPatB_some] at h
  intro v hv
  simp only [patVars, List.mem_append] at hv
  rcases hv with (hv | hv) | hv
  · exact bound_of_instTermB h.1 v hv
  · exact bound_of_instTermB h.2.1 v hv
  · exact bound_of_instTermB h.2.2 v hv

theorem instV_congr {σ τ : String → Nat} {p : Pat} (h : ∀ v ∈ patVars p, σ v = τ v) : instV σ p = instV τ p := by
  simp only [instV, Fact.mk.injEq]
  simp only [patVars, List.mem_append] at h
  exact ⟨instTermV_congr fun v hv => h v (Or.inl (Or.inl hv)), instTermV_congr fun v hv => h v (Or.inl (Or.inr hv)),
    instTermV_congr fun v hv => h v (Or.inr hv)⟩

theorem matchPat_sound {p : Pat} {f : Fact} {b b' : Binding} (h : matchPat p f b = some b') :
    BExt b b' ∧ instPatB b' p = some f := by
  simp only [matchPat, Option.bind_eq_some_iff] at h
  obtain ⟨b1, h1, b2, h2, h3⟩ := h
  obtain ⟨e1, i1⟩ := matchTerm_sound h1
  obtain ⟨e2, i2⟩ := matchTerm_sound h2
  obtain ⟨e3, i3⟩ := matchTerm_sound h3
  exact ⟨e1.trans (e2.trans e3),
    instPatB_some.mpr ⟨instTermB_mono (e2.trans e3) i1, instTermB_mono e3 i2, i3⟩⟩

theorem matchPat_complete {σ : String → Nat} {p : Pat} {b : Binding} (he : Ext σ b) :
    ∃ b', matchPat p (instV σ p) b = some b' ∧ Ext σ b' := by
  obtain ⟨b1, h1, e1⟩ := matchTerm_complete (t := p.s) he
  obtain ⟨b2, h2, e2⟩ := matchTerm_complete (t := p.p) e1
  obtain ⟨b3, h3, e3⟩ := matchTerm_complete (t := p.o) e2
  exact ⟨b3, by simp only [matchPat, instV, h1, h2, h3, Option.bind_some], e3⟩

theorem mem_joinPrem {p : Pat} {facts : List Fact} {bs : List Binding} {b' : Binding} :
    b' ∈ joinPrem p facts bs ↔ ∃ b ∈ bs, ∃ f ∈ facts, matchPat p f b = some b' := by
  simp only [joinPrem, List.mem_flatMap, List.mem_filterMap]

theorem joinAll_sound {ps : List Pat} {facts : List Fact} : ∀ {bs : List Binding} {b' : Binding},
    b' ∈ joinAll ps facts bs → ∃ b ∈ bs, BExt b b' ∧ ∀ p ∈ ps, ∃ f ∈ facts, instPatB b' p = some f := by
  induction ps with
  | nil => intro bs b' h; exact ⟨b', h, BExt.refl _, fun _ hp => nomatch hp⟩
  | cons q qs ih =>
    intro bs b' h
    obtain ⟨b1, hb1, e1, hall⟩ := ih (bs := joinPrem q facts bs) h
    obtain ⟨b, hb, f, hf, hm⟩ := mem_joinPrem.mp hb1
    obtain ⟨e0, i0⟩ := matchPat_sound hm
    refine ⟨b, hb, e0.trans e1, fun p hp => ?_⟩
    rcases List.mem_cons.mp hp with rfl | hp
    · exact ⟨f, hf, instPatB_mono e1 i0⟩
    · exact hall p hp

theorem joinAll_complete {σ : String → Nat} {ps : List Pat} {facts : List Fact} : ∀ {bs : List Binding} {b : Binding},
    b ∈ bs → Ext σ b → (∀ p ∈ ps, instV σ p ∈ facts) → ∃ b' ∈ joinAll ps facts bs, Ext σ b' := by
  induction ps with
  | nil => intro bs b hb he _; exact ⟨b, hb, he⟩
  | cons q qs ih =>
    intro bs b hb he hall
    obtain ⟨b1, hm, e1⟩ := matchPat_complete (p := q) he
    exact ih (mem_joinPrem.mpr ⟨b, hb, _, hall q List.mem_cons_self, hm⟩) e1
      (fun p hp => hall p (List.mem_cons_of_mem _ hp))

theorem mem_or_mem_eraseIdx {α} {l : List α} {i : Nat} {a x : α} (hi : l[i]? = some a) (hx : x ∈ l) :
    x = a ∨ x ∈ l.eraseIdx i := by
  obtain ⟨j, hj⟩ := List.mem_iff_getElem?.mp hx
  by_cases hji : j = i
  · rw [hji, hi] at hj; exact Or.inl (Option.some.inj hj).symm
  · exact Or.inr (List.mem_eraseIdx_iff_getElem?.mpr ⟨j, hji, hj⟩)

theorem solutionsAt_sound {r : Rule} {all delta : List Fact} {i : Nat} {b : Binding}
    (hd : ∀ f ∈ delta, f ∈ all) (h : b ∈ solutionsAt r all delta i) :
    ∀ p ∈ r.prem, ∃ f ∈ all, instPatB b p = some f := by
  unfold solutionsAt at h
  cases hpi : r.prem[i]? with
  | none => rw [hpi] at h; cases h
  | some pi =>
    rw [hpi] at h
    obtain ⟨b1, hb1, e1, hall⟩ := joinAll_sound h
    obtain ⟨b0, _, f, hf, hm⟩ := mem_joinPrem.mp hb1
    intro p hp
    rcases mem_or_mem_eraseIdx hpi hp with rfl | hp
    · exact ⟨f, hd f hf, instPatB_mono e1 (matchPat_sound hm).2⟩
    · exact hall p hp

theorem solutionsAt_complete {σ : String → Nat} {r : Rule} {all delta : List Fact} {i : Nat} {pi : Pat}
    (hpi : r.prem[i]? = some pi) (hdel : instV σ pi ∈ delta) (hall : ∀ p ∈ r.prem, instV σ p ∈ all) :
    ∃ b ∈ solutionsAt r all delta i, Ext σ b := by
  unfold solutionsAt
  rw [hpi]
  obtain ⟨b1, hm, e1⟩ := matchPat_complete (σ := σ) (p := pi) (b := []) (fun _ _ h => nomatch h)
  exact joinAll_complete (mem_joinPrem.mpr ⟨[], List.mem_singleton.mpr rfl, _, hdel, hm⟩) e1
    (fun p hp => hall p (List.mem_of_mem_eraseIdx hp))

theorem filterMap_eq_map {α β} (l : List α) (f : α → Option β) (g : α → β) (h : ∀ a ∈ l, f a = some (g a)) :
    l.filterMap f = l.map g := by
  induction l with
  | nil => rfl
  | cons a t ih =>
    rw [List.filterMap_cons, h a List.mem_cons_self, List.map_cons, ih (fun x hx => h x (List.mem_cons_of_mem _ hx))]

theorem mem_solutions {r : Rule} {all delta : List Fact} {b : Binding} :
    b ∈ solutions r all delta ↔ ∃ i, i < r.prem.length ∧ b ∈ solutionsAt r all delta i := by
  simp only [solutions, List.mem_flatMap, List.mem_range]

theorem mem_jobs {rules : List Rule} {all delta : List Fact} {j : Job} :
    j ∈ jobs rules all delta ↔ ∃ r ∈ rules, ∃ b ∈ solutions r all delta, jobOf r b = j := by
  simp only [jobs, List.mem_flatMap, List.mem_eraseDups, List.mem_map]

theorem prems_of_solution {r : Rule} {all : List Fact} {b : Binding} {σ : String → Nat}
    (hs : ∀ p ∈ r.prem, ∃ f ∈ all, instPatB b p = some f) (he : Ext σ b) :
    r.prem.filterMap (instPatB b) = r.prem.map (instV σ) :=
  filterMap_eq_map _ _ _ fun p hp => by
    obtain ⟨f, _, hf⟩ := hs p hp
    rw [hf, instPatB_ext he hf]

theorem jobs_sound {rules : List Rule} {all delta : List Fact} (hd : ∀ f ∈ delta, f ∈ all) {j : Job}
    (h : j ∈ jobs rules all delta) :
    ∃ r ∈ rules, ∃ σ, j = ⟨r.prem.map (instV σ), r.concl.map (instV σ)⟩ ∧ ∀ f ∈ j.prems, f ∈ all := by
  obtain ⟨r, hr, b, hb, rfl⟩ := mem_jobs.mp h
  obtain ⟨i, _, hbi⟩ := mem_solutions.mp hb
  have hs := solutionsAt_sound hd hbi
  have hpre := prems_of_solution hs (ext_valOf b)
  refine ⟨r, hr, valOf b, by rw [jobOf, hpre], fun f hf => ?_⟩
  rw [jobOf, hpre, List.mem_map] at hf
  obtain ⟨p, hp, rfl⟩ := hf
  obtain ⟨f', hf', hi⟩ := hs p hp
  rw [instPatB_ext (ext_valOf b) hi]; exact hf'

theorem safeRule_iff {r : Rule} : safeRule r = true ↔
    ∀ c ∈ r.concl, ∀ v ∈ patVars c, ∃ p ∈ r.prem, v ∈ patVars p := by
  simp only [safeRule, List.all_eq_true, List.any_eq_true, List.contains_iff_mem]

theorem jobs_complete {rules : List Rule} {all delta : List Fact} {r : Rule} (hr : r ∈ rules)
    (hsafe : safeRule r = true) (hd : ∀ f ∈ delta, f ∈ all) (σ : String → Nat)
    (hall : ∀ p ∈ r.prem, instV σ p ∈ all) (hdel : ∃ p ∈ r.prem, instV σ p ∈ delta) :
    ⟨r.prem.map (instV σ), r.concl.map (instV σ)⟩ ∈ jobs rules all delta := by
  obtain ⟨pi, hpi, hpd⟩ := hdel
  obtain ⟨i, hi, hget⟩ := List.mem_iff_getElem.mp hpi
  obtain ⟨b, hb, he⟩ := solutionsAt_complete (List.getElem?_eq_some_iff.mpr ⟨hi, hget⟩) hpd hall
  have hs := solutionsAt_sound hd hb
  refine mem_jobs.mpr ⟨r, hr, b, mem_solutions.mpr ⟨i, hi, hb⟩, ?_⟩
  rw [jobOf, prems_of_solution hs he, Job.mk.injEq]
  -- `valOf b` and `σ` agree on the head variables, which safety puts among the variables the join has bound
  refine ⟨rfl, List.map_congr_left fun c hc => instV_congr fun v hv => ?_⟩
  obtain ⟨p, hp, hvp⟩ := safeRule_iff.mp hsafe c hc v hv
  obtain ⟨f, _, hf⟩ := hs p hp
  obtain ⟨x, hbv⟩ := bound_of_instPatB hf v hvp
  rw [he v x hbv, valOf, hbv]; rfl

end Kolibrie.Prov
