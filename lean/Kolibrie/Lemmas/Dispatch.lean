import Kolibrie.Spec.Dispatch
/-!
What C17 needs of the entry points: `floorB` and `ceilB` land on character boundaries inside the input;
`prepare_extensions` never touches the dataset and trains only what the request's TRAIN declarations name;
materialisation changes the dataset only through a trained relation; at the update entries a request that does not
parse as an Update operation leaves the dataset alone; while TRAIN succeeds, the outcome is the one `dispatch`
tabulates.
-/
namespace Kolibrie.Dispatch
open Kolibrie.Utf8

theorem isBoundary_zero (s : Bytes) : isBoundary s 0 = true := rfl

theorem isBoundary_length (s : Bytes) : isBoundary s s.length = true := by
  unfold isBoundary
  split
  · rfl
  · simp

theorem floorB_le (s : Bytes) (i : Nat) : floorB s i ≤ i := by
  induction i with
  | zero => exact Nat.le_refl 0
  | succ i ih =>
    unfold floorB
    split
    · exact Nat.le_refl _
    · exact Nat.le_succ_of_le ih

theorem floorB_boundary (s : Bytes) (i : Nat) : isBoundary s (floorB s i) = true := by
  induction i with
  | zero => rfl
  | succ i ih =>
    unfold floorB
    split
    · assumption
    · exact ih

theorem floorB_fix (s : Bytes) (i : Nat) (h : isBoundary s i = true) : floorB s i = i := by
  cases i with
  | zero => rfl
  | succ i => exact if_pos h

theorem ceilB_spec (s : Bytes) (f i : Nat) (h : i + f = s.length) :
    isBoundary s (ceilB s i f) = true ∧ i ≤ ceilB s i f ∧ ceilB s i f ≤ s.length := by
  induction f generalizing i with
  | zero =>
    have hi : i = s.length := h
    subst hi
    exact ⟨isBoundary_length s, Nat.le_refl _, Nat.le_refl _⟩
  | succ f ih =>
    unfold ceilB
    by_cases hb : isBoundary s i = true
    · rw [if_pos hb]
      exact ⟨hb, Nat.le_refl _, h ▸ Nat.le_add_right _ _⟩
    · rw [if_neg hb]
      obtain ⟨h1, h2, h3⟩ := ih (i + 1) (by rw [Nat.add_right_comm]; exact h)
      exact ⟨h1, Nat.le_of_succ_le h2, h3⟩

theorem trainAll_data (eng : Engine) (ps : List String) (d : Db) : (trainAll eng d ps).1.data = d.data := by
  induction ps generalizing d with
  | nil => rfl
  | cons p ps ih =>
    unfold trainAll
    by_cases hr : p ∈ d.relations
    · rw [if_pos hr]
      by_cases ht : eng.trainOk p = true
      · rw [if_pos ht, ih]
      · rw [if_neg ht]
    · rw [if_neg hr]
      exact ih d

theorem mem_insertNew {l : List String} {x y : String} (h : y ∈ insertNew l x) : y ∈ l ∨ y = x := by
  unfold insertNew at h
  by_cases hx : x ∈ l
  · rw [if_pos hx] at h
    exact Or.inl h
  · rw [if_neg hx] at h
    exact (List.mem_cons.1 h).symm

theorem trainAll_trained (eng : Engine) (ps : List String) (d : Db) (x : String)
    (h : x ∈ (trainAll eng d ps).1.trained) : x ∈ d.trained ∨ x ∈ ps := by
  induction ps generalizing d with
  | nil => exact Or.inl h
  | cons p ps ih =>
    unfold trainAll at h
    have tail : ∀ d', x ∈ (trainAll eng d' ps).1.trained → x ∈ d'.trained ∨ x ∈ p :: ps := fun d' h' =>
      (ih d' h').imp_right (List.mem_cons_of_mem _)
    by_cases hr : p ∈ d.relations
    · rw [if_pos hr] at h
      by_cases ht : eng.trainOk p = true
      · rw [if_pos ht] at h
        rcases tail _ h with h' | h'
        · exact (mem_insertNew h').imp_right fun (e : x = p) => e ▸ List.mem_cons_self
        · exact Or.inr h'
      · rw [if_neg ht] at h
        exact Or.inl h
    · rw [if_neg hr] at h
      exact tail d h

theorem prepare_data (eng : Engine) (d : Db) (r : Req) : (prepareExtensions eng d r).1.data = d.data :=
  trainAll_data eng r.trains _

theorem prepare_trained (eng : Engine) (d : Db) (r : Req) (x : String)
    (h : x ∈ (prepareExtensions eng d r).1.trained) : x ∈ d.trained ∨ x ∈ r.trains := by
  unfold prepareExtensions at h
  -- `have`, not `exact`: the expected type would fix the start state to `d` before `h` is looked at
  have h' := trainAll_trained eng r.trains _ x h
  exact h'

theorem materializeAll_data (eng : Engine) (ps : List String) (d : Db) (h : ∀ p ∈ ps, p ∉ d.trained) :
    (materializeAll eng d ps).1.data = d.data := by
  induction ps with
  | nil => rfl
  | cons p ps ih =>
    unfold materializeAll
    have tail := ih fun q hq => h q (List.mem_cons_of_mem _ hq)
    by_cases hr : p ∈ d.relations
    · rw [if_pos hr, if_neg (h p List.mem_cons_self)]
    · rw [if_neg hr]
      exact tail

/-- `decide` settles a statement about every parser result by trying the five (`Props.C17.dispatch_table`) -/
instance Parsed.decidableForall (p : Parsed → Prop) [∀ x, Decidable (p x)] : Decidable (∀ x, p x) :=
  decidable_of_iff (p .select ∧ p .update ∧ p .ext ∧ p .err ∧ p .trailing)
    ⟨fun ⟨h1, h2, h3, h4, h5⟩ x => by cases x <;> assumption, fun h => ⟨h _, h _, h _, h _, h _⟩⟩

theorem prepare_ok_of_no_trains (eng : Engine) (d : Db) (r : Req) (h : r.trains = []) :
    (prepareExtensions eng d r).2 = true := by
  unfold prepareExtensions
  rw [h]
  rfl

theorem queryEntry_outcome (eng : Engine) (d : Db) (r : Req) (h : (prepareExtensions eng d r).2 = true) :
    (queryEntry eng d r).2 = dispatch .query r.strict r.alias := by
  unfold queryEntry
  generalize prepareExtensions eng d r = p at h
  obtain ⟨d1, ok⟩ := p
  subst h
  cases hs : r.strict <;> simp only [parseRequest, Bool.false_eq_true, ↓reduceIte, hs] <;> rfl

/-- what `parse_request` does not classify as an Update never reaches `execute_update_operation` -/
theorem updateRequest_not_update (eng : Engine) (f : Bool) (d : Db) (r : Req) (h : parseRequest f r ≠ .update) :
    (updateRequest eng f d r).1.data = d.data ∧ (updateRequest eng f d r).2.2 = false := by
  have hd := prepare_data eng d r
  unfold updateRequest
  generalize prepareExtensions eng d r = p at hd
  obtain ⟨d1, ok⟩ := p
  cases hp : parseRequest f r with
  | update => exact absurd hp h
  | err => exact ⟨rfl, rfl⟩
  | trailing => exact ⟨rfl, rfl⟩
  | select => cases ok <;> exact ⟨hd, rfl⟩
  | ext => cases ok <;> exact ⟨hd, rfl⟩

theorem updateRequest_outcome (eng : Engine) (d : Db) (r : Req) (h : (prepareExtensions eng d r).2 = true) :
    (updateRequest eng false d r).2.1 = dispatch .update r.strict r.alias := by
  unfold updateRequest
  generalize prepareExtensions eng d r = p at h
  obtain ⟨d1, ok⟩ := p
  subst h
  cases hs : r.strict <;> simp only [parseRequest, Bool.false_eq_true, ↓reduceIte, hs]
  case update =>
    by_cases hm : (materializeAll eng d1 r.preds).2 = true
    · simp only [hm, Bool.not_true, Bool.false_eq_true, ↓reduceIte]
      cases eng.applyUpdate (materializeAll eng d1 r.preds).1.data <;> rfl
    · simp only [hm, Bool.not_false, ↓reduceIte]
      rfl
  all_goals rfl

theorem handleUpdate_not_update (eng : Engine) (d : Db) (r : Req) (hs : r.strict ≠ .update) (ha : r.alias ≠ .update) :
    (handleUpdate eng d r).1.data = d.data ∧ (handleUpdate eng d r).2 = .failed := by
  unfold handleUpdate
  obtain ⟨h1, ok1⟩ := updateRequest_not_update eng false d r hs
  generalize updateRequest eng false d r = u1 at h1 ok1
  obtain ⟨d1, o1, b1⟩ := u1
  cases ok1
  obtain ⟨h2, ok2⟩ := updateRequest_not_update eng true d1 r ha
  simp only [Bool.false_eq_true, ↓reduceIte]
  generalize updateRequest eng true d1 r = u2 at h2 ok2
  obtain ⟨d2, o2, b2⟩ := u2
  cases ok2
  exact ⟨h2.trans h1, rfl⟩

end Kolibrie.Dispatch
