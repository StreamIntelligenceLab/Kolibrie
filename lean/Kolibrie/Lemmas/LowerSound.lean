import Kolibrie.Lemmas.Filters
/-! The lowering is sound: the all-bind-join reference plan of a lowered group pattern computes the algebra's
    solutions (fragment `okPat`: BGPs, nested groups with group-scoped FILTERs, UNION, GRAPH <iri>/?g, VALUES,
    sub-selects over one triple pattern). -/
namespace Kolibrie.Engine
open List

/-- the unit elimination of `append_join` is invisible to the executor -/
theorem exec_appendJoin (db : DB) (a b : Logical) (ctx : Ctx) (inc : List Row) :
    exec db (implBind (appendJoin a b)) ctx inc = exec db (implBind b) ctx (exec db (implBind a) ctx inc) := by
  fun_cases appendJoin a b with
  | case1 => rw [implBind, exec_unit]
  | case2 => rw [implBind, exec_unit]
  | case3 => rw [implBind, exec_bindJoin]

theorem safeL_appendJoin (a b : Logical) (ha : safeL a = true) (hb : safeL b = true) : safeL (appendJoin a b) = true := by
  fun_cases appendJoin a b with
  | case1 => exact hb
  | case2 => exact ha
  | case3 => exact Bool.and_eq_true_iff.2 ⟨ha, hb⟩

theorem certainL_appendJoin (a b : Logical) : certainL (appendJoin a b) = certainL a ++ certainL b := by
  fun_cases appendJoin a b with
  | case1 => rfl
  | case2 => exact (append_nil _).symm
  | case3 => rfl

/-- the situation in which a lowered pattern with graph scope `scope` is executed; there the scope its scans carry
    is the active graph of the algebra (`scan_scope`) -/
def ScopeOK (db : DB) (scope : GTerm) (ctx : Ctx) (inc : List Row) : Prop :=
  match scope with
  | .dflt => True
  | .named g => ctx.active = some g ∧ visibleNamed db ctx g = true
  | .var v => ∃ g, ctx.active = some g ∧ visibleNamed db ctx g = true ∧ ∀ r ∈ inc, Row.get r v = some g

theorem graphSeed_bound (v : Var) (g : Val) (row : Row) (h : Row.get row v = some g) :
    graphSeed (some (v, g)) row = some row := by
  simp [graphSeed, h]

theorem scanRow_scope (db : DB) (ctx : Ctx) (s p o : Term) (scope : GTerm) (row : Row)
    (h : ScopeOK db scope ctx [row]) :
    scanRow db ctx ⟨s, p, o, scope⟩ row = scanRow db ctx ⟨s, p, o, .dflt⟩ row := by
  cases scope with
  | dflt => rfl
  | named g =>
    obtain ⟨ha, hv⟩ := h
    simp only [scanRow, ha, hv, if_true]
    unfold scanOneGraph queryGraph boundOf
    rfl
  | var v =>
    obtain ⟨g, ha, hv, hr⟩ := h
    have hg := hr row (by simp)
    simp only [scanRow, ha, hg, hv, if_true]
    unfold scanOneGraph
    rw [graphSeed_bound v g row hg]
    simp only [graphSeed]
    rfl

theorem scopeOK_of_extends (db : DB) (scope : GTerm) (ctx : Ctx) (inc acc : List Row)
    (h : ScopeOK db scope ctx inc) (he : ∀ b ∈ acc, ∃ i ∈ inc, Extends i b) : ScopeOK db scope ctx acc := by
  cases scope with
  | dflt => trivial
  | named g => exact h
  | var v =>
    obtain ⟨g, ha, hv, hr⟩ := h
    refine ⟨g, ha, hv, ?_⟩
    intro b hb
    obtain ⟨i, hi, hext⟩ := he b hb
    exact hext v g (hr i hi)

theorem scan_scope (db : DB) (ctx : Ctx) (s p o : Term) (scope : GTerm) (inc : List Row)
    (h : ScopeOK db scope ctx inc) :
    scan db ctx ⟨s, p, o, scope⟩ inc = scan db ctx ⟨s, p, o, .dflt⟩ inc :=
  flatMap_congr_left _ _ _ fun row hrow => scanRow_scope db ctx s p o scope row
    (scopeOK_of_extends db scope ctx inc [row] h fun b hb => ⟨b, mem_singleton.1 hb ▸ hrow, extends_refl b⟩)

mutual
/-- variables certainly bound by a pattern; on the fragment `okPat` this is `certainL` of its lowering (`lowering_ok`),
    a BIND inside a group is where the two part -/
def certainP : Pat → List Var
  | .unit => []
  | .bgp tps => tps.flatMap (fun t => termVar t.1 ++ termVar t.2.1 ++ termVar t.2.2)
  | .group elems => certainPs elems
  | .union bs => certainPU bs
  | .graph _ p => certainP p
  | .filter _ => []
  | .bind _ _ => []
  | .values _ _ => []
  | .sub _ _ => []
def certainPs : List Pat → List Var
  | [] => []
  | p :: rest => certainP p ++ certainPs rest
def certainPU : List Pat → List Var
  | [] => []
  | p :: rest => (certainP p).filter (fun v => (certainPU rest).contains v)
end

def filtersOk (cert : List Var) : List Pat → Bool
  | [] => true
  | .filter c :: rest => c.vars.all (fun v => cert.contains v) && filtersOk cert rest
  | _ :: rest => filtersOk cert rest

/-- the sub-selects of the fragment: any solution modifiers (aggregates, GROUP BY, ORDER BY, DISTINCT, LIMIT, projection)
    over a single triple pattern (a join-free inner plan: the optimizer has no choice inside) -/
def okSub : Pat → Bool
  | .bgp [_] => true
  | _ => false

theorem okSub_shape (q : Pat) (h : okSub q = true) : ∃ t, q = .bgp [t] := by
  revert h
  fun_cases okSub q with
  | case1 t => exact fun _ => ⟨t, rfl⟩
  | case2 hne => exact fun h => nomatch h

mutual
/-- the fragment of the lowering-soundness theorem: BGPs, nested groups whose FILTERs only mention variables the
    group certainly binds, UNION, GRAPH <iri> / GRAPH ?g, VALUES, sub-selects over one triple pattern (no BIND) -/
def okPat : Pat → Bool
  | .unit => true
  | .bgp _ => true
  | .group elems => okElems elems && filtersOk (certainPs elems) elems
  | .union bs => okAll bs
  | .graph name p => (match name with | .dflt => false | _ => true) && okPat p
  | .filter _ => false
  | .bind _ _ => false
  | .values _ _ => true
  | .sub q _ => okSub q
def okElems : List Pat → Bool
  | [] => true
  | .filter _ :: rest => okElems rest
  | p :: rest => okPat p && okElems rest
def okAll : List Pat → Bool
  | [] => true
  | p :: rest => okPat p && okAll rest
end

/-- the executor on the elements of a group, one after the other (FILTERs are deferred) -/
def runGroup (db : DB) (scope : GTerm) (ctx : Ctx) (acc : List Row) : List Pat → List Row
  | [] => acc
  | .filter _ :: rest => runGroup db scope ctx acc rest
  | p :: rest => runGroup db scope ctx (exec db (implBind (lower scope p)) ctx acc) rest

/-! `lowerGroup`, `semGroup` and `runGroup` skip FILTERs, treat BIND apart and take the same generic step on every other
element; inside the fragment the head of a group is a FILTER or an `okPat` pattern. -/

theorem okElems_cons {e : Pat} {rest : List Pat} (h : okElems (e :: rest) = true) :
    (∃ c, e = .filter c ∧ okElems rest = true) ∨ (okPat e = true ∧ okElems rest = true) := by
  cases e with
  | filter c => exact .inl ⟨c, rfl, h⟩
  | _ => exact .inr (Bool.and_eq_true_iff.1 h)

/-- the clauses of an induction over the fragment (`fragment_induct`), for patterns, the elements of a group and the
    branches of a union -/
structure FragmentCases (P : Pat → Prop) (PG PU : List Pat → Prop) : Prop where
  unit : P .unit
  bgp : ∀ tps, P (.bgp tps)
  values : ∀ vs rs, P (.values vs rs)
  sub : ∀ t spec, P (.sub (.bgp [t]) spec)
  graph : ∀ name p, name ≠ .dflt → okPat p = true → P p → P (.graph name p)
  union : ∀ bs, okAll bs = true → PU bs → P (.union bs)
  group : ∀ elems, okElems elems = true → filtersOk (certainPs elems) elems = true → PG elems → P (.group elems)
  gnil : PG []
  gfilter : ∀ c rest, okElems rest = true → PG rest → PG (.filter c :: rest)
  gcons : ∀ e rest, okPat e = true → okElems rest = true → P e → PG rest → PG (e :: rest)
  unil : PU []
  ucons : ∀ b rest, okPat b = true → okAll rest = true → P b → PU rest → PU (b :: rest)

mutual
theorem okPat_induct {P : Pat → Prop} {PG PU : List Pat → Prop} (c : FragmentCases P PG PU) :
    (p : Pat) → okPat p = true → P p
  | .unit, _ => c.unit
  | .bgp tps, _ => c.bgp tps
  | .values vs rs, _ => c.values vs rs
  | .filter _, h => nomatch h
  | .bind _ _, h => nomatch h
  | .sub q spec, h => by obtain ⟨t, rfl⟩ := okSub_shape q h; exact c.sub t spec
  | .graph name p, h => by
      have h := Bool.and_eq_true_iff.1 h
      exact c.graph name p (fun e => by rw [e] at h; cases h.1) h.2 (okPat_induct c p h.2)
  | .union bs, h => c.union bs h (okAll_induct c bs h)
  | .group elems, h => by
      have h := Bool.and_eq_true_iff.1 h
      exact c.group elems h.1 h.2 (okElems_induct c elems h.1)

theorem okElems_induct {P : Pat → Prop} {PG PU : List Pat → Prop} (c : FragmentCases P PG PU) :
    (es : List Pat) → okElems es = true → PG es
  | [], _ => c.gnil
  | e :: rest, h => by
      rcases okElems_cons h with ⟨f, rfl, h'⟩ | ⟨hp, h'⟩
      · exact c.gfilter f rest h' (okElems_induct c rest h')
      · exact c.gcons e rest hp h' (okPat_induct c e hp) (okElems_induct c rest h')

theorem okAll_induct {P : Pat → Prop} {PG PU : List Pat → Prop} (c : FragmentCases P PG PU) :
    (bs : List Pat) → okAll bs = true → PU bs
  | [], _ => c.unil
  | b :: rest, h => by
      have h := Bool.and_eq_true_iff.1 h
      exact c.ucons b rest h.1 h.2 (okPat_induct c b h.1) (okAll_induct c rest h.2)
end

theorem fragment_induct {P : Pat → Prop} {PG PU : List Pat → Prop} (c : FragmentCases P PG PU) :
    (∀ p, okPat p = true → P p) ∧ (∀ es, okElems es = true → PG es) ∧ (∀ bs, okAll bs = true → PU bs) :=
  ⟨okPat_induct c, okElems_induct c, okAll_induct c⟩

theorem lowerGroup_cons (scope : GTerm) (plan : Logical) {e : Pat} (rest : List Pat) (h : okPat e = true) :
    lowerGroup scope plan (e :: rest) = lowerGroup scope (appendJoin plan (lower scope e)) rest := by
  cases e with
  | filter | bind => cases h
  | _ => rfl

theorem semGroup_cons (db : DB) (ctx : Ctx) (acc : List Row) {e : Pat} (rest : List Pat) (h : okPat e = true) :
    semGroup db ctx acc (e :: rest) = semGroup db ctx (nlJoin acc (sem db ctx e)) rest := by
  cases e with
  | filter | bind => cases h
  | _ => rfl

theorem runGroup_cons (db : DB) (scope : GTerm) (ctx : Ctx) (acc : List Row) {e : Pat} (rest : List Pat)
    (h : okPat e = true) :
    runGroup db scope ctx acc (e :: rest) =
      runGroup db scope ctx (exec db (implBind (lower scope e)) ctx acc) rest := by
  cases e with
  | filter | bind => cases h
  | _ => rfl

theorem lowerGroup_exec (db : DB) (scope : GTerm) (ctx : Ctx) (elems : List Pat) (he : okElems elems = true) :
    ∀ (plan : Logical) (inc : List Row),
      exec db (implBind (lowerGroup scope plan elems)) ctx inc =
        runGroup db scope ctx (exec db (implBind plan) ctx inc) elems := by
  induction elems with
  | nil => intro plan inc; rfl
  | cons e rest ih =>
    intro plan inc
    rcases okElems_cons he with ⟨c, rfl, he'⟩ | ⟨hp, he'⟩
    · simp only [lowerGroup, runGroup]; exact ih he' plan inc
    · rw [lowerGroup_cons scope plan rest hp, runGroup_cons db scope ctx _ rest hp, ih he', exec_appendJoin]

theorem runGroup_perm (db : DB) (scope : GTerm) (ctx : Ctx) (elems : List Pat) {a b : List Row} (h : a ~ b) :
    runGroup db scope ctx a elems ~ runGroup db scope ctx b elems := by
  induction elems generalizing a b with
  | nil => exact h
  | cons e rest ih =>
    cases e with
    | filter c => exact ih h
    | _ => exact ih (exec_perm db _ ctx h)

theorem semGroup_assoc (db : DB) (ctx : Ctx) (elems : List Pat) (he : okElems elems = true) (acc B : List Row)
    (ha : AllWF acc) (hB : AllWF B) :
    semGroup db ctx (nlJoin acc B) elems = nlJoin acc (semGroup db ctx B elems) := by
  induction elems generalizing B with
  | nil => rfl
  | cons e rest ih =>
    rcases okElems_cons he with ⟨c, rfl, he'⟩ | ⟨hp, he'⟩
    · simp only [semGroup]; exact ih he' B hB
    · rw [semGroup_cons db ctx _ rest hp, semGroup_cons db ctx _ rest hp, nlJoin_assoc acc B _ ha hB]
      exact ih he' _ (nlJoin_wf B _ hB)

theorem filtersOk_eq (cert : List Var) (elems : List Pat) :
    filtersOk cert elems = (groupConds elems).all (fun c => c.vars.all (fun v => cert.contains v)) := by
  induction elems with
  | nil => rfl
  | cons e rest ih =>
    cases e with
    | filter c => exact congrArg _ ih
    | _ => exact ih

theorem filtersOk_mem {cert : List Var} {es : List Pat} {c : Cond} (h : filtersOk cert es = true)
    (hm : Pat.filter c ∈ es) : ∀ v ∈ c.vars, v ∈ cert := by
  rw [filtersOk_eq, all_eq_true] at h
  exact fun v hv => by simpa using all_eq_true.1 (h c (mem_groupConds.2 hm)) v hv

theorem implFilters_perm {a b : List Row} (elems : List Pat) (h : a ~ b) : implFilters a elems ~ implFilters b elems := by
  rw [implFilters_eq, implFilters_eq]; exact h.filter _

theorem implFilters_nlJoin (inc G : List Row) (elems : List Pat)
    (hb : ∀ c, Pat.filter c ∈ elems → ∀ r ∈ G, boundIn r c.vars) :
    implFilters (nlJoin inc G) elems = nlJoin inc (implFilters G elems) := by
  rw [implFilters_eq, implFilters_eq]
  exact filter_nlJoin_of _ inc G fun row _ r hr m hm => all_congr_left _ _ _ fun c hc =>
    eval_merge c row r m hm (hb c (mem_groupConds.1 hc) r hr)

theorem safeL_lowerFilters (plan : Logical) (elems : List Pat) (hp : safeL plan = true)
    (hf : filtersOk (certainL plan) elems = true) : safeL (lowerFilters plan elems) = true := by
  rw [filtersOk_eq] at hf
  rw [lowerFilters_eq]
  generalize groupConds elems = cs at hf ⊢
  induction cs generalizing plan with
  | nil => exact hp
  | cons c cs ih =>
    rw [all_cons, Bool.and_eq_true] at hf
    exact ih (.filter plan c) (Bool.and_eq_true_iff.2 ⟨hp, hf.1⟩) hf.2

theorem certainL_lowerFilters (plan : Logical) (elems : List Pat) :
    certainL (lowerFilters plan elems) = certainL plan := by
  rw [lowerFilters_eq]
  induction groupConds elems generalizing plan with
  | nil => rfl
  | cons c cs ih => rw [foldl_cons, ih]; rfl

theorem lower_bgp_eq (scope : GTerm) (tps : List (Term × Term × Term)) :
    lower scope (.bgp tps) = tps.foldl (fun acc t => appendJoin acc (.scan ⟨t.1, t.2.1, t.2.2, scope⟩)) .unit := by
  simp only [lower]

theorem bgp_fold_ok (scope : GTerm) (tps : List (Term × Term × Term)) (L0 : Logical) (h0 : safeL L0 = true) :
    safeL (tps.foldl (fun acc t => appendJoin acc (.scan ⟨t.1, t.2.1, t.2.2, scope⟩)) L0) = true ∧
    certainL (tps.foldl (fun acc t => appendJoin acc (.scan ⟨t.1, t.2.1, t.2.2, scope⟩)) L0) =
      certainL L0 ++ tps.flatMap (fun t => termVar t.1 ++ termVar t.2.1 ++ termVar t.2.2) := by
  induction tps generalizing L0 with
  | nil => exact ⟨h0, (append_nil _).symm⟩
  | cons t rest ih =>
    obtain ⟨h1, h2⟩ := ih _ (safeL_appendJoin L0 (.scan ⟨t.1, t.2.1, t.2.2, scope⟩) h0 rfl)
    refine ⟨h1, ?_⟩
    rw [foldl_cons, h2, certainL_appendJoin, flatMap_cons, append_assoc]; rfl

theorem lowering_ok :
    (∀ p, okPat p = true → ∀ scope, safeL (lower scope p) = true ∧ certainL (lower scope p) = certainP p) ∧
    (∀ elems, okElems elems = true → ∀ scope plan, safeL plan = true →
      safeL (lowerGroup scope plan elems) = true ∧
      certainL (lowerGroup scope plan elems) = certainL plan ++ certainPs elems) ∧
    (∀ bs, okAll bs = true → ∀ scope,
      safeL (lowerUnion scope bs) = true ∧ certainL (lowerUnion scope bs) = certainPU bs) := by
  apply fragment_induct
  constructor
  case unit => exact fun _ => ⟨rfl, rfl⟩
  case values => exact fun _ _ _ => ⟨rfl, rfl⟩
  case sub => exact fun _ _ _ => ⟨rfl, rfl⟩
  case bgp =>
    intro tps scope
    rw [lower_bgp_eq]
    exact bgp_fold_ok scope tps .unit rfl
  case graph => exact fun name p _ _ ih _ => ih name
  case union => exact fun bs _ ih scope => ih scope
  case group =>
    intro elems _ hf ih scope
    obtain ⟨h1, h2⟩ := ih scope .unit rfl
    exact ⟨safeL_lowerFilters _ elems h1 (by rw [h2]; exact hf), (certainL_lowerFilters _ elems).trans h2⟩
  case gnil => exact fun _ plan hp => ⟨hp, (append_nil _).symm⟩
  case gfilter => exact fun c rest _ ih scope plan hp => ih scope plan hp
  case gcons =>
    intro e rest hpe _ ihe ih scope plan hp
    obtain ⟨f1, f2⟩ := ihe scope
    obtain ⟨h1, h2⟩ := ih scope _ (safeL_appendJoin plan _ hp f1)
    rw [lowerGroup_cons scope plan rest hpe]
    refine ⟨h1, ?_⟩
    rw [h2, certainL_appendJoin, f2, append_assoc]; rfl
  case unil => exact fun _ => ⟨rfl, rfl⟩
  case ucons =>
    intro b rest _ _ ihb ih scope
    obtain ⟨f1, f2⟩ := ihb scope
    obtain ⟨g1, g2⟩ := ih scope
    refine ⟨Bool.and_eq_true_iff.2 ⟨f1, g1⟩, ?_⟩
    rw [lowerUnion, certainL, f2, g2]; rfl

theorem safeL_lowerGroup (scope : GTerm) : (elems : List Pat) → okElems elems = true → (plan : Logical) →
    safeL plan = true → safeL (lowerGroup scope plan elems) = true :=
  fun elems he plan hp => (lowering_ok.2.1 elems he scope plan hp).1

theorem safeL_lowerUnion (scope : GTerm) : (bs : List Pat) → okAll bs = true → safeL (lowerUnion scope bs) = true :=
  fun bs h => (lowering_ok.2.2 bs h scope).1

theorem plain_implBind (L : Logical) (h : safeL L = true) : plain (implBind L) = true :=
  plain_of_safeSyn _ (safeSyn_of_impl (impl_implBind L) h)

theorem lower_facts (scope : GTerm) : (p : Pat) → okPat p = true →
    plain (implBind (lower scope p)) = true ∧ ∀ v ∈ certainP p, v ∈ planCertain (implBind (lower scope p)) :=
  fun p h => ⟨plain_implBind _ (lowering_ok.1 p h scope).1,
    fun v hv => by rw [planCertain_of_impl (impl_implBind _), (lowering_ok.1 p h scope).2]; exact hv⟩

theorem valuesRows_wf (vars : List Var) (rows : List (List (Option Val))) : AllWF (valuesRows vars rows) := by
  intro r hr
  obtain ⟨cells, _, rfl⟩ := mem_map.1 hr
  refine foldl_wf _ (fun acc z hacc => ?_) _ _ Row.wf_nil
  unfold valuesStep
  cases z.2 with
  | none => exact hacc
  | some y => exact Row.wf_insert acc z.1 y hacc

theorem bgp_fold_wf (db : DB) (ctx : Ctx) (tps : List (Term × Term × Term)) (acc : List Row) (hacc : AllWF acc) :
    AllWF (tps.foldl (fun acc (x : Term × Term × Term) => nlJoin acc (scan db ctx ⟨x.1, x.2.1, x.2.2, .dflt⟩ [[]])) acc) := by
  induction tps generalizing acc with
  | nil => exact hacc
  | cons t rest ih => simp only [foldl_cons]; exact ih _ (nlJoin_wf acc _ hacc)

theorem sem_wf_all (db : DB) :
    (∀ p, okPat p = true → ∀ ctx : Ctx, AllWF (sem db ctx p)) ∧
    (∀ elems, okElems elems = true → ∀ (ctx : Ctx) (acc : List Row), AllWF acc → AllWF (semGroup db ctx acc elems)) ∧
    (∀ bs, okAll bs = true → ∀ ctx : Ctx, AllWF (semUnion db ctx bs)) := by
  apply fragment_induct
  constructor
  case unit => exact fun _ => allWF_unit
  case bgp => exact fun tps ctx => bgp_fold_wf db ctx tps [[]] allWF_unit
  case values => exact fun vs rs _ => valuesRows_wf vs rs
  case sub => exact fun t spec ctx => finalizeSub_wf spec _ (bgp_fold_wf db ctx [t] [[]] allWF_unit)
  case graph =>
    intro name p hn _ ih ctx
    cases name with
    | dflt => exact absurd rfl hn
    | named g =>
      show AllWF (if visibleNamed db ctx g = true then sem db { ctx with active := some g } p else [])
      split
      · exact ih _
      · exact allWF_nil
    | var v => exact allWF_flatMap _ _ fun g _ => nlJoin_wf _ _ (allWF_singleton (wf_single v g))
  case union => exact fun bs _ ih ctx => ih ctx
  case group =>
    intro elems _ _ ih ctx
    show AllWF (semFilters _ elems)
    rw [semFilters_eq]; exact allWF_filter _ (ih ctx [[]] allWF_unit)
  case gnil => exact fun _ _ ha => ha
  case gfilter => exact fun c rest _ ih ctx acc ha => ih ctx acc ha
  case gcons =>
    intro e rest hp _ _ ih ctx acc ha
    rw [semGroup_cons db ctx acc rest hp]; exact ih ctx _ (nlJoin_wf acc _ ha)
  case unil => exact fun _ => allWF_nil
  case ucons => exact fun b rest _ _ ihb ih ctx => allWF_append (ihb ctx) (ih ctx)

theorem sem_wf (db : DB) (p : Pat) (h : okPat p = true) (ctx : Ctx) : AllWF (sem db ctx p) :=
  (sem_wf_all db).1 p h ctx

theorem semUnion_wf (db : DB) : (bs : List Pat) → okAll bs = true → ∀ ctx : Ctx, AllWF (semUnion db ctx bs) :=
  (sem_wf_all db).2.2

theorem fold_nlJoin_assoc {α} (xs : List α) (f : α → List Row) (acc B : List Row) (ha : AllWF acc) (hB : AllWF B) :
    xs.foldl (fun a x => nlJoin a (f x)) (nlJoin acc B) = nlJoin acc (xs.foldl (fun a x => nlJoin a (f x)) B) := by
  induction xs generalizing B with
  | nil => rfl
  | cons x xs ih =>
    simp only [foldl_cons]
    rw [nlJoin_assoc acc B (f x) ha hB]
    exact ih _ (nlJoin_wf B (f x) hB)

theorem bgp_exec (db : DB) (scope : GTerm) (ctx : Ctx) (tps : List (Term × Term × Term)) (L0 : Logical)
    (inc : List Row) :
    exec db (implBind (tps.foldl (fun acc t => appendJoin acc (.scan ⟨t.1, t.2.1, t.2.2, scope⟩)) L0)) ctx inc =
      tps.foldl (fun a t => scan db ctx ⟨t.1, t.2.1, t.2.2, scope⟩ a) (exec db (implBind L0) ctx inc) := by
  induction tps generalizing L0 with
  | nil => rfl
  | cons t rest ih =>
    simp only [foldl_cons]
    rw [ih, exec_appendJoin]
    simp [implBind, exec_scan]

theorem bgp_scoped (db : DB) (scope : GTerm) (ctx : Ctx) (hc : ctx.WF) (tps : List (Term × Term × Term)) :
    ∀ acc, AllWF acc → ScopeOK db scope ctx acc →
      tps.foldl (fun a t => scan db ctx ⟨t.1, t.2.1, t.2.2, scope⟩ a) acc =
      tps.foldl (fun a (t : Term × Term × Term) => nlJoin a (scan db ctx ⟨t.1, t.2.1, t.2.2, .dflt⟩ [[]])) acc := by
  induction tps with
  | nil => intro acc _ _; rfl
  | cons t rest ih =>
    intro acc ha hs
    simp only [foldl_cons]
    have e : scan db ctx ⟨t.1, t.2.1, t.2.2, scope⟩ acc = nlJoin acc (scan db ctx ⟨t.1, t.2.1, t.2.2, .dflt⟩ [[]]) := by
      rw [scan_scope db ctx _ _ _ scope acc hs, scan_seed db ctx _ acc ha hc]
    rw [e]
    exact ih _ (nlJoin_wf acc _ ha) (scopeOK_of_extends db scope ctx acc _ hs (nlJoin_extends acc _))

/-- the graph scope a sub-select's scans carry is in force on the unit solution the sub-select starts from -/
theorem scopeOK_subScope (db : DB) (scope : GTerm) (ctx : Ctx) (inc : List Row) (hs : ScopeOK db scope ctx inc) :
    ScopeOK db (subScope scope) ctx [[]] := by
  cases scope with
  | dflt => trivial
  | named g => exact hs
  | var v => trivial

/-- a BGP run by the reference plan joins its scans' own solutions, one after the other, onto the incoming solutions
    (an equality; on the unit solution this is the algebra's `sem`) -/
theorem bgp_exec_eq (db : DB) (ctx : Ctx) (hc : ctx.WF) (scope : GTerm) (tps : List (Term × Term × Term))
    (inc : List Row) (hi : AllWF inc) (hs : ScopeOK db scope ctx inc) :
    exec db (implBind (lower scope (.bgp tps))) ctx inc =
      tps.foldl (fun a (t : Term × Term × Term) => nlJoin a (scan db ctx ⟨t.1, t.2.1, t.2.2, .dflt⟩ [[]])) inc := by
  rw [lower_bgp_eq, bgp_exec]
  simp only [implBind, exec_unit]
  exact bgp_scoped db scope ctx hc tps inc hi hs

/-- **sub-select**: the inner pattern is evaluated once, on the unit solution, under the active graph (a variable
    graph scope is not carried inside: `subScope`), the modifiers are applied, and the result is joined with the
    incoming solutions - as an equality, so that LIMIT / ORDER BY / aggregates see the same sequence -/
theorem sub_bgp_sound (db : DB) (ctx : Ctx) (hc : ctx.WF) (scope : GTerm) (inc : List Row)
    (hs : ScopeOK db scope ctx inc) (tps : List (Term × Term × Term)) (spec : Spec) :
    exec db (implBind (lower scope (.sub (.bgp tps) spec))) ctx inc =
      nlJoin inc (sem db ctx (.sub (.bgp tps) spec)) := by
  have e : lower scope (.sub (.bgp tps) spec) = .subquery (lower (subScope scope) (.bgp tps)) spec := by
    simp only [lower]
  rw [e]
  simp only [implBind]
  rw [exec_subquery, bgp_exec_eq db ctx hc (subScope scope) tps [[]] allWF_unit (scopeOK_subScope db scope ctx inc hs)]
  simp only [sem]

theorem lowering_sound (db : DB) :
    (∀ p, okPat p = true →
      ∀ (scope : GTerm) (ctx : Ctx) (inc : List Row), ctx.WF → AllWF inc → ScopeOK db scope ctx inc →
        exec db (implBind (lower scope p)) ctx inc ~ nlJoin inc (sem db ctx p)) ∧
    (∀ elems, okElems elems = true →
      ∀ (scope : GTerm) (ctx : Ctx) (acc : List Row), ctx.WF → AllWF acc → ScopeOK db scope ctx acc →
        runGroup db scope ctx acc elems ~ semGroup db ctx acc elems) ∧
    (∀ bs, okAll bs = true →
      ∀ (scope : GTerm) (ctx : Ctx) (inc : List Row), ctx.WF → AllWF inc → ScopeOK db scope ctx inc →
        exec db (implBind (lowerUnion scope bs)) ctx inc ~ nlJoin inc (semUnion db ctx bs)) := by
  apply fragment_induct
  constructor
  case unit =>
    intro scope ctx inc _ _ _
    exact .of_eq ((exec_unit db ctx inc).trans (nlJoin_unit_right inc).symm)
  case bgp =>
    intro tps scope ctx inc hc hi hs
    rw [bgp_exec_eq db ctx hc scope tps inc hi hs]
    have h := fold_nlJoin_assoc tps (fun (t : Term × Term × Term) => scan db ctx ⟨t.1, t.2.1, t.2.2, .dflt⟩ [[]])
      inc [[]] hi allWF_unit
    rw [nlJoin_unit_right] at h
    exact .of_eq h
  case values =>
    intro vs rs scope ctx inc _ _ _
    exact .of_eq (exec_values db ctx vs rs inc)
  case sub =>
    intro t spec scope ctx inc hc _ hs
    rw [sub_bgp_sound db ctx hc scope inc hs [t] spec]
  case union =>
    intro bs _ ih scope ctx inc hc hi hs
    exact ih scope ctx inc hc hi hs
  case graph =>
    intro name p hn _ ih scope ctx inc hc hi _
    simp only [lower, implBind, sem]
    cases name with
    | dflt => exact absurd rfl hn
    | named g =>
      rw [exec_graph_named]
      dsimp only
      split
      next hv => exact ih (.named g) { ctx with active := some g } inc hc hi ⟨rfl, hv⟩
      · rw [nlJoin_nil_right]
    | var v =>
      -- under graph `g` the inner plan runs on rows that bind `v` to `g`: the scope its scans carry is in force
      rw [exec_graph_var]
      exact graphVar_join db ctx hc v _ (exec_nil db _) (fun c => sem db c p)
        (fun g hvis row' hr' hg => ih (.var v) { ctx with active := some g } [row'] hc
          (allWF_singleton hr') ⟨g, rfl, hvis, fun r hr => mem_singleton.1 hr ▸ hg⟩) inc hi
  case group =>
    intro elems he hf ih scope ctx inc hc hi hs
    simp only [lower, sem]
    rw [lowerFilters_exec_of implBind (fun _ _ => rfl), lowerGroup_exec db scope ctx elems he]
    simp only [implBind, exec_unit]
    -- the elements, run on the incoming solutions, give the incoming solutions joined with the group's own
    have h1 := ih scope ctx inc hc hi hs
    have h2 := semGroup_assoc db ctx elems he inc [[]] hi allWF_unit
    rw [nlJoin_unit_right] at h2
    rw [h2] at h1
    -- the group's own solutions are also those of its plan run on the unit solution, which binds the group's
    -- certain variables, in particular the variables of its filters
    have hfb : ∀ c, Pat.filter c ∈ elems → ∀ r ∈ semGroup db ctx [[]] elems, boundIn r c.vars := by
      have h0 := ih .dflt ctx [[]] hc allWF_unit trivial
      obtain ⟨hsafe, hcert⟩ := lowering_ok.2.1 elems he .dflt .unit rfl
      intro c hcm r hr v hv
      have hr' : r ∈ exec db (implBind (lowerGroup .dflt .unit elems)) ctx [[]] := by
        rw [lowerGroup_exec db .dflt ctx elems he]; exact h0.symm.subset hr
      refine (exec_facts db _ (plain_implBind _ hsafe) ctx [[]] r hr').2 v ?_
      rw [planCertain_of_impl (impl_implBind _), hcert]
      exact filtersOk_mem hf hcm v hv
    refine (implFilters_perm elems h1).trans ?_
    rw [implFilters_nlJoin inc _ elems hfb, implFilters_eq_semFilters _ elems hfb]
  case gnil => intro _ _ acc _ _ _; exact .refl _
  case gfilter =>
    intro c rest _ ih scope ctx acc hc ha hs
    exact ih scope ctx acc hc ha hs
  case gcons =>
    intro e rest hp _ ihe ih scope ctx acc hc ha hs
    rw [runGroup_cons db scope ctx acc rest hp, semGroup_cons db ctx acc rest hp]
    -- the joined rows extend the incoming ones, so the scope stays in force for the rest of the group
    refine (runGroup_perm db scope ctx rest (ihe scope ctx acc hc ha hs)).trans ?_
    exact ih scope ctx _ hc (nlJoin_wf acc _ ha) (scopeOK_of_extends db scope ctx acc _ hs (nlJoin_extends acc _))
  case unil =>
    intro _ ctx inc _ _ _
    exact .of_eq ((exec_empty db ctx inc).trans (nlJoin_nil_right inc).symm)
  case ucons =>
    intro b rest _ _ ihb ih scope ctx inc hc hi hs
    refine (Perm.of_eq (exec_union db ctx _ _ inc)).trans ?_
    exact ((ihb scope ctx inc hc hi hs).append (ih scope ctx inc hc hi hs)).trans (nlJoin_append_right inc _ _).symm

/-- **Soundness of the lowering** on the fragment: executing the (all-bind-join) plan of a pattern with incoming
    solutions yields the join of the incoming solutions with the algebra's solutions of the pattern. -/
theorem lower_sound (db : DB) : (p : Pat) → okPat p = true →
    ∀ (scope : GTerm) (ctx : Ctx) (inc : List Row), ctx.WF → AllWF inc → ScopeOK db scope ctx inc →
      exec db (implBind (lower scope p)) ctx inc ~ nlJoin inc (sem db ctx p) :=
  (lowering_sound db).1

theorem runGroup_sound (db : DB) : (elems : List Pat) → okElems elems = true →
    ∀ (scope : GTerm) (ctx : Ctx) (acc : List Row), ctx.WF → AllWF acc → ScopeOK db scope ctx acc →
      runGroup db scope ctx acc elems ~ semGroup db ctx acc elems :=
  (lowering_sound db).2.1

theorem lowerUnion_sound (db : DB) : (bs : List Pat) → okAll bs = true →
    ∀ (scope : GTerm) (ctx : Ctx) (inc : List Row), ctx.WF → AllWF inc → ScopeOK db scope ctx inc →
      exec db (implBind (lowerUnion scope bs)) ctx inc ~ nlJoin inc (semUnion db ctx bs) :=
  (lowering_sound db).2.2

/-- dataset views built by `build_dataset_view` list each visible named graph once -/
theorem datasetView_wf (db : DB) (q : Select) (a : Option Val) : (⟨datasetView db q, a⟩ : Ctx).WF := by
  fun_cases datasetView db q with
  | case1 h => exact nodup_eraseDups _
  | case2 h => exact nodup_eraseDups _

/-- **Every physical plan of a pattern of the fragment computes the algebra's solution multiset** -/
theorem plans_compute_algebra (db : DB) (p : Pat) (h : okPat p = true) (algs : List JoinAlg) (ctx : Ctx)
    (hc : ctx.WF) : exec db (implement algs (lower .dflt p)).1 ctx [[]] ~ sem db ctx p := by
  have h1 := impl_irrelevant db (lowering_ok.1 p h .dflt).1 (impl_implement _ algs) (impl_implBind _) ctx hc _ allWF_unit
  have h2 := lower_sound db p h .dflt ctx [[]] hc allWF_unit trivial
  rw [nlJoin_unit_left _ (sem_wf db p h ctx)] at h2
  exact h1.trans h2

end Kolibrie.Engine
