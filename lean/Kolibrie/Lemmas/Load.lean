import Kolibrie.Model.Load
/-
What C13 needs of the loaders: cutting into chunks and flattening is the identity; `encode` keeps the dictionary
consistent (`DictInv`) and only extends it (`Ext`), so sequential encoding appends exactly the quads given
(`encodeSeq_spec`); a dictionary absorbed by the empty one with `or_insert` decodes as it did (`merge_empty_decode`).
-/
namespace Kolibrie.Load
open Kolibrie.Lines

theorem chunksF_flatten {α} (n : Nat) (hn : 0 < n) : ∀ (f : Nat) (l : List α), l.length ≤ f → (chunksF f n l).flatten = l := by
  intro f
  induction f with
  | zero => intro l h; have : l = [] := List.length_eq_zero_iff.mp (Nat.le_zero.mp h); subst this; rfl
  | succ f ih =>
    intro l h
    unfold chunksF
    cases l with
    | nil => rfl
    | cons a l =>
      simp only [List.isEmpty_cons, Bool.false_eq_true, if_false, List.flatten_cons]
      rw [ih]
      · exact List.take_append_drop n (a :: l)
      · simp only [List.length_drop, List.length_cons] at h ⊢; omega

theorem chunks_flatten {α} (n : Nat) (hn : 0 < n) (l : List α) : (chunks n l).flatten = l :=
  chunksF_flatten n hn l.length l (Nat.le_refl _)

theorem flatMap_filterMap_flatten {α β} (g : α → Option β) : ∀ (L : List (List α)),
    L.flatMap (fun c => c.filterMap g) = L.flatten.filterMap g := by
  intro L
  induction L with
  | nil => rfl
  | cons c L ih => simp [List.flatMap_cons, List.filterMap_append, ih]

theorem chunksF_single {α} (n : Nat) : ∀ (f : Nat) (l : List α), l ≠ [] → l.length ≤ n → 0 < f → chunksF f n l = [l] := by
  intro f l hne hl hf
  cases f with
  | zero => omega
  | succ f =>
    unfold chunksF
    have : l.isEmpty = false := by cases l <;> simp_all
    simp only [this, Bool.false_eq_true, if_false, List.take_of_length_le hl, List.drop_of_length_le hl]
    cases f <;> simp [chunksF]

structure DictInv (d : Dict) : Prop where
  fwd : ∀ s i, d.s2i.lookup s = some i → d.i2s.lookup i = some s
  bound : ∀ i s, d.i2s.lookup i = some s → i < d.next

theorem DictInv.empty : DictInv Dict.empty := ⟨by intro s i h; simp [Dict.empty] at h, by intro i s h; simp [Dict.empty] at h⟩

theorem lookup_cons_ne {κ β} [BEq κ] [LawfulBEq κ] {k k' : κ} {v : β} {l : List (κ × β)} (h : k ≠ k') :
    ((k', v) :: l).lookup k = l.lookup k := by
  have : (k == k') = false := by simpa using h
  simp [List.lookup, this]

theorem encode_inv {d : Dict} (h : DictInv d) (s : Str) : DictInv (d.encode s).1 := by
  unfold Dict.encode
  cases hl : d.s2i.lookup s with
  | some i => exact h
  | none =>
    refine ⟨?_, ?_⟩
    · intro t i ht
      by_cases hts : t = s
      · subst hts
        simp only [List.lookup_cons_self, Option.some.injEq] at ht
        subst ht; exact List.lookup_cons_self
      · simp only [lookup_cons_ne hts] at ht
        have := h.fwd t i ht
        have hi : i ≠ d.next := fun e => Nat.lt_irrefl _ (e ▸ h.bound i t this)
        simp only [lookup_cons_ne hi]; exact this
    · intro i t ht
      by_cases hi : i = d.next
      · subst hi; exact Nat.lt_succ_self _
      · simp only [lookup_cons_ne hi] at ht
        exact Nat.lt_succ_of_lt (h.bound i t ht)

theorem encode_mono {d : Dict} (h : DictInv d) (s : Str) {i : Nat} {t : Str} (hd : d.decode i = some t) :
    (d.encode s).1.decode i = some t := by
  unfold Dict.encode
  cases hl : d.s2i.lookup s with
  | some j => exact hd
  | none =>
    have hi : i ≠ d.next := fun e => Nat.lt_irrefl _ (e ▸ h.bound i t hd)
    simp only [Dict.decode, lookup_cons_ne hi]; exact hd

theorem encode_decode {d : Dict} (h : DictInv d) (s : Str) : (d.encode s).1.decode (d.encode s).2 = some s := by
  unfold Dict.encode
  cases hl : d.s2i.lookup s with
  | some j => exact h.fwd s j hl
  | none => simp only [Dict.decode]; exact List.lookup_cons_self

structure Ext (d d' : Dict) : Prop where
  inv : DictInv d'
  mono : ∀ i t, d.decode i = some t → d'.decode i = some t

theorem Ext.refl {d : Dict} (h : DictInv d) : Ext d d := ⟨h, fun _ _ h => h⟩
theorem Ext.trans {a b c : Dict} (h1 : Ext a b) (h2 : Ext b c) : Ext a c :=
  ⟨h2.inv, fun i t h => h2.mono i t (h1.mono i t h)⟩

theorem lexI_mono {d d' : Dict} (h : Ext d d') : ∀ (t : ITerm) (x : LTerm), lexI d t = some x → lexI d' t = some x := by
  intro t
  induction t with
  | leaf i =>
    intro x hx
    simp only [lexI, Option.map_eq_some_iff] at hx ⊢
    obtain ⟨s, hs, rfl⟩ := hx
    exact ⟨s, h.mono i s hs, rfl⟩
  | quoted a b c iha ihb ihc =>
    intro x hx
    simp only [lexI] at hx ⊢
    split at hx
    · next xa xb xc ha hb hc =>
      rw [iha xa ha, ihb xb hb, ihc xc hc]
      exact hx
    · cases hx

theorem encodeL_spec : ∀ (t : LTerm) (d : Dict), DictInv d →
    Ext d (encodeL d t).1 ∧ lexI (encodeL d t).1 (encodeL d t).2 = some t := by
  intro t
  induction t with
  | plain s =>
    intro d h
    exact ⟨⟨encode_inv h s, fun i t hd => encode_mono h s hd⟩, by simp [encodeL, lexI, encode_decode h s]⟩
  | quoted a b c iha ihb ihc =>
    intro d h
    obtain ⟨ea, la⟩ := iha d h
    obtain ⟨eb, lb⟩ := ihb _ ea.inv
    obtain ⟨ec, lc⟩ := ihc _ eb.inv
    refine ⟨ea.trans (eb.trans ec), ?_⟩
    simp only [encodeL, lexI]
    rw [lexI_mono (eb.trans ec) _ _ la, lexI_mono ec _ _ lb, lc]

theorem lexQuad_mono {d d' : Dict} (h : Ext d d') (q : IQuad) (x : LQuad) (hx : lexQuad d q = some x) :
    lexQuad d' q = some x := by
  unfold lexQuad at hx ⊢
  split at hx
  · next s p o hs hp ho =>
    simp only [lexI_mono h _ _ hs, lexI_mono h _ _ hp, lexI_mono h _ _ ho]
    cases hg : q.g with
    | none => simpa [hg] using hx
    | some g =>
      simp only [hg, Option.map_eq_some_iff] at hx ⊢
      obtain ⟨gl, hgl, rfl⟩ := hx
      exact ⟨gl, lexI_mono h _ _ hgl, rfl⟩
  · cases hx

structure WellDB (db : DB) : Prop where
  inv : DictInv db.dict
  dec : ∀ q ∈ db.quads, ∃ x, lexQuad db.dict q = some x

theorem WellDB.empty : WellDB DB.empty := ⟨DictInv.empty, by intro q hq; simp [DB.empty] at hq⟩

theorem lex_mono {d d' : Dict} (h : Ext d d') (qs : List IQuad) (hq : ∀ q ∈ qs, ∃ x, lexQuad d q = some x) :
    qs.map (lexQuad d') = qs.map (lexQuad d) := by
  apply List.map_congr_left
  intro q hqm
  obtain ⟨x, hx⟩ := hq q hqm
  rw [hx, lexQuad_mono h q x hx]

theorem WellDB.snoc {db : DB} (h : WellDB db) {d' : Dict} (ext : Ext db.dict d') {iq : IQuad} {q : LQuad}
    (hnew : lexQuad d' iq = some q) :
    WellDB { db with dict := d', quads := db.quads ++ [iq] } ∧
    lex { db with dict := d', quads := db.quads ++ [iq] } = lex db ++ [some q] := by
  refine ⟨⟨ext.inv, fun x hx => ?_⟩, ?_⟩
  · rcases List.mem_append.1 hx with hx | hx
    · obtain ⟨y, hy⟩ := h.dec x hx
      exact ⟨y, lexQuad_mono ext x y hy⟩
    · exact ⟨q, List.mem_singleton.1 hx ▸ hnew⟩
  · simp only [lex, List.map_append, List.map_cons, List.map_nil]
    rw [lex_mono ext _ h.dec, hnew]

theorem addL_spec (db : DB) (h : WellDB db) (q : LQuad) :
    WellDB (addL db q) ∧ lex (addL db q) = lex db ++ [some q] := by
  obtain ⟨s, p, o, g⟩ := q
  obtain ⟨es, ls⟩ := encodeL_spec s db.dict h.inv
  obtain ⟨ep, lp⟩ := encodeL_spec p _ es.inv
  obtain ⟨eo, lo⟩ := encodeL_spec o _ ep.inv
  cases g with
  | none =>
    refine h.snoc (es.trans (ep.trans eo)) ?_
    simp only [lexQuad]
    rw [lexI_mono (ep.trans eo) _ _ ls, lexI_mono eo _ _ lp, lo]
  | some g =>
    obtain ⟨eg, lg⟩ := encodeL_spec g _ eo.inv
    refine h.snoc (es.trans (ep.trans (eo.trans eg))) ?_
    simp only [lexQuad]
    rw [lexI_mono (ep.trans (eo.trans eg)) _ _ ls, lexI_mono (eo.trans eg) _ _ lp, lexI_mono eg _ _ lo, lg]
    rfl

theorem encodeSeq_spec : ∀ (qs : List LQuad) (db : DB), WellDB db →
    WellDB (encodeSeq db qs) ∧ lex (encodeSeq db qs) = lex db ++ qs.map some := by
  intro qs
  induction qs with
  | nil => intro db h; exact ⟨h, by simp [encodeSeq]⟩
  | cons q qs ih =>
    intro db h
    obtain ⟨h1, l1⟩ := addL_spec db h q
    obtain ⟨h2, l2⟩ := ih (addL db q) h1
    refine ⟨h2, ?_⟩
    have : encodeSeq db (q :: qs) = encodeSeq (addL db q) qs := rfl
    rw [this, l2, l1]; simp

/-- a chunk's private database holds the chunk's triples (its dictionary starts empty, so nothing is aliased yet) -/
theorem n3Chunk_lex (ls : List Str) :
    lex (n3Chunk ls) = ((ls.foldl n3Line ⟨[], [], []⟩).triples.map fun t =>
      (⟨.plain t.1, .plain t.2.1, .plain t.2.2, none⟩ : LQuad)).map some := by
  refine Eq.trans ?_ (encodeSeq_spec _ DB.empty WellDB.empty).2
  rw [encodeSeq, List.foldl_map]
  rfl

/-- `or_insert` looks up like appending the entry at the end: an earlier entry for the key shadows it -/
theorem lookup_orInsert {κ β} [BEq κ] [LawfulBEq κ] (m : List (κ × β)) (k k' : κ) (v : β) :
    (orInsert m k' v).lookup k = (m.lookup k).or ([(k', v)].lookup k) := by
  unfold orInsert
  cases hk' : m.lookup k' with
  | none => exact List.lookup_append
  | some x =>
    cases hk : m.lookup k with
    | some y => rfl
    | none =>
      have e : (k == k') = false := beq_false_of_ne fun e => by rw [e, hk'] at hk; cases hk
      simp [List.lookup, e]

theorem lookup_foldl_orInsert {κ β} [BEq κ] [LawfulBEq κ] (k : κ) (l m : List (κ × β)) :
    (l.foldl (fun m kv => orInsert m kv.1 kv.2) m).lookup k = (m.lookup k).or (l.lookup k) := by
  induction l generalizing m with
  | nil => simp [List.lookup]
  | cons kv l ih => rw [List.foldl_cons, ih, lookup_orInsert, Option.or_assoc, ← List.lookup_append]; rfl

theorem merge_empty_decode (d : Dict) (i : Nat) : (Dict.empty.merge d).decode i = d.decode i := by
  simp [Dict.merge, Dict.decode, Dict.empty, lookup_foldl_orInsert, List.lookup]

theorem lexI_congr {d d' : Dict} (h : ∀ i, d.decode i = d'.decode i) (t : ITerm) : lexI d t = lexI d' t := by
  induction t with
  | leaf i => simp only [lexI, h]
  | quoted a b c iha ihb ihc => simp only [lexI, iha, ihb, ihc]

theorem lexQuad_congr {d d' : Dict} (h : ∀ i, d.decode i = d'.decode i) (q : IQuad) : lexQuad d q = lexQuad d' q := by
  unfold lexQuad
  rw [funext (lexI_congr h)]

end Kolibrie.Load
