import Kolibrie.Lemmas.Repairs
import Kolibrie.Spec.Sld
/-! The executable least-model rounds of `Spec/Sld.lean` only produce facts of the stated derivation height (C18). -/
namespace Kolibrie.SldSpec
open Kolibrie.Terms Kolibrie.Repairs

theorem derivableD_mono {F P} {n : Nat} {f : Fact} (h : DerivableD F P n f) : DerivableD F P (n + 1) f := by
  induction h with
  | fact hf => exact DerivableD.fact hf
  | rule θ hr hc _ ih => exact DerivableD.rule θ hr hc ih

/-- the program used as a witness in C18: fact `1 p 2`, rule `x p y ⇒ y q x`; `2 q 1` has a derivation of height 1
    and matches the goal `(?v0 q ?v1)` -/
theorem swap_witness :
    DerivableD [⟨1, 5, 2⟩] [⟨[⟨.var "x", .const 5, .var "y"⟩], [⟨.var "y", .const 6, .var "x"⟩]⟩] 1 ⟨2, 6, 1⟩ ∧
    Matches ⟨.var "v0", .const 6, .var "v1"⟩ ⟨2, 6, 1⟩ :=
  ⟨DerivableD.rule (r := ⟨[⟨.var "x", .const 5, .var "y"⟩], [⟨.var "y", .const 6, .var "x"⟩]⟩)
      (c := ⟨.var "y", .const 6, .var "x"⟩) (fun v => if v = "x" then 1 else 2) List.mem_cons_self List.mem_cons_self
      fun p hp => by cases List.mem_singleton.1 hp; exact DerivableD.fact List.mem_cons_self,
    fun v => if v = "v0" then 2 else 1, rfl⟩

theorem mem_addNew {f : Fact} {fs : List Fact} : ∀ {S : List Fact}, f ∈ addNew S fs → f ∈ S ∨ f ∈ fs := by
  induction fs with
  | nil => exact fun h => .inl h
  | cons a fs ih =>
    intro S h
    unfold addNew at h
    by_cases ha : a ∈ S
    · rw [if_pos ha] at h
      exact (ih h).imp_right (List.mem_cons_of_mem _)
    · rw [if_neg ha] at h
      rcases ih h with h | h
      · rcases List.mem_append.1 h with h | h
        · exact .inl h
        · cases List.mem_singleton.1 h; exact .inr List.mem_cons_self
      · exact .inr (List.mem_cons_of_mem _ h)

theorem instB_eq (c : Pattern) (b : Binding) : instB c b = c.inst (valOf b) := by
  have : ∀ t, termId b t = t.eval (valOf b) := fun t => by cases t <;> rfl
  simp only [instB, Pattern.inst, this]

theorem solveAll_sound (S : List Fact) {ps : List Pattern} : ∀ {b b' : Binding}, b' ∈ solveAll S ps b →
    ∀ σ, Agrees σ b' → Agrees σ b ∧ ∀ p ∈ ps, p.inst σ ∈ S := by
  induction ps with
  | nil => intro b b' h σ ha; cases List.mem_singleton.1 h; exact ⟨ha, fun _ h => nomatch h⟩
  | cons p ps ih =>
    intro b b' h σ ha
    simp only [solveAll, List.mem_flatMap] at h
    obtain ⟨f, hf, h⟩ := h
    cases hm : matchPat p f b with
    | none => rw [hm] at h; cases h
    | some b1 =>
      rw [hm] at h
      obtain ⟨ha1, hall⟩ := ih h σ ha
      obtain ⟨ha0, rfl⟩ := matchPat_agrees.1 ⟨b1, hm, ha1⟩
      exact ⟨ha0, List.forall_mem_cons.2 ⟨hf, hall⟩⟩

theorem levels_sound (F : List Fact) (P : List Rule) (n : Nat) : ∀ f ∈ levels F P n, DerivableD F P n f := by
  induction n with
  | zero =>
    intro f h
    rcases mem_addNew h with h | h
    · cases h
    · exact DerivableD.fact h
  | succ n ih =>
    intro f h
    rcases mem_addNew h with h | h
    · exact derivableD_mono (ih f h)
    · simp only [consequences, List.mem_flatMap, List.mem_map] at h
      obtain ⟨r, hr, b, hb, c, hc, rfl⟩ := h
      rw [instB_eq]
      exact DerivableD.rule _ hr hc (fun p hp => ih _ ((solveAll_sound _ hb _ (agrees_valOf b)).2 p hp))

end Kolibrie.SldSpec
