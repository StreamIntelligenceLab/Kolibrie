import Kolibrie.Lemmas.ProvMatch
/-
Generic correctness of the tag-propagating semi-naive engine (`round`, `iter`) for any provenance semiring that has a
world-indexed Boolean reading (`Sem`): soundness of every reachable tag store and completeness at the fixpoint the
driver loop reports.
-/
namespace Kolibrie.Prov

/-- world-indexed reading of a provenance semiring: each world is a homomorphism into the Booleans -/
structure Sem (T : Type) (W : Type) (P : Prov T) where
  ok : W → Prop
  sem : T → W → Prop
  sem_zero : ∀ t w, ok w → P.isZero t = true → ¬ sem t w
  sem_one : ∀ w, ok w → sem P.one w
  sem_disj : ∀ a b w, sem (P.disj a b) w ↔ sem a w ∨ sem b w
  sem_conj : ∀ a b w, sem (P.conj a b) w ↔ sem a w ∧ sem b w
  sem_sat : ∀ a b w, P.saturated a b = true → (sem b w ↔ sem a w)

/-- Boolean reading of `BooleanProvenance`: one world, a tag holds when it is `true` -/
def boolSem : Sem Bool Unit boolProv where
  ok _ := True
  sem t _ := t = true
  sem_zero t _ _ hz := by rw [eq_of_beq hz]; exact Bool.false_ne_true
  sem_one _ _ := rfl
  sem_disj a b _ := by simp only [boolProv, Extracted.boolDisj, Bool.or_eq_true]
  sem_conj a b _ := by simp only [boolProv, Extracted.boolConj, Bool.and_eq_true]
  sem_sat a b _ hs := by rw [eq_of_beq hs]

/-- threshold reading of a semiring on `Nat` whose `disj` / `conj` are max / min as seen from every threshold: world
    `τ ∈ (lo, one]` reads a tag as "at least `τ`" -/
def threshSem (P : Prov Nat) (lo : Nat) (hdisj : ∀ a b τ, τ ≤ P.disj a b ↔ τ ≤ a ∨ τ ≤ b)
    (hconj : ∀ a b τ, τ ≤ P.conj a b ↔ τ ≤ a ∧ τ ≤ b) (hzero : ∀ t, P.isZero t = true → t = 0)
    (hsat : ∀ a b, P.saturated a b = true → a = b) : Sem Nat Nat P where
  ok τ := lo < τ ∧ τ ≤ P.one
  sem t τ := τ ≤ t
  sem_zero t τ hτ hz := by rw [hzero t hz]; exact Nat.not_le_of_lt (Nat.zero_lt_of_lt hτ.1)
  sem_one _ hτ := hτ.2
  sem_disj := hdisj
  sem_conj := hconj
  sem_sat a b _ hs := by rw [hsat a b hs]

/-! What `threshSem` asks of `MinMaxProbability` and `ExpirationProvenance`, proved against the bodies that
`tools/extract.py` writes into `Kolibrie.Extracted`: the proofs break when the Rust `disjunction` / `conjunction`
are anything but max / min. -/

theorem le_minmaxDisj (a b τ : Nat) : τ ≤ Extracted.minmaxDisj a b ↔ τ ≤ a ∨ τ ≤ b := by
  unfold Extracted.minmaxDisj; exact Std.le_max

theorem le_minmaxConj (a b τ : Nat) : τ ≤ Extracted.minmaxConj a b ↔ τ ≤ a ∧ τ ≤ b := by
  unfold Extracted.minmaxConj; exact Nat.le_min

theorem le_expDisj (a b τ : Nat) : τ ≤ Extracted.expDisj a b ↔ τ ≤ a ∨ τ ≤ b := by
  unfold Extracted.expDisj; exact Std.le_max

theorem le_expConj (a b τ : Nat) : τ ≤ Extracted.expConj a b ↔ τ ≤ a ∧ τ ≤ b := by
  unfold Extracted.expConj; exact Nat.le_min

variable {T W : Type} {P : Prov T} (S : Sem T W P)

theorem getTag_setTag (ts : Tags T) (f g : Fact) (t : T) :
    getTag P (setTag ts f t) g = if f = g then t else getTag P ts g := by
  by_cases h : f = g <;> simp only [getTag, setTag, lookupTag, h, if_true, if_false, Option.getD_some]

theorem sem_conjTags (ts : Tags T) (w : W) (hw : S.ok w) (fs : List Fact) :
    S.sem (conjTags P ts fs) w ↔ ∀ f ∈ fs, S.sem (getTag P ts f) w := by
  have fold : ∀ (fs : List Fact) (acc : T), S.sem (fs.foldl (fun acc f => P.conj acc (getTag P ts f)) acc) w
      ↔ S.sem acc w ∧ ∀ f ∈ fs, S.sem (getTag P ts f) w := by
    intro fs
    induction fs with
    | nil => intro acc; exact ⟨fun h => ⟨h, fun _ hf => nomatch hf⟩, fun h => h.1⟩
    | cons h t ih => intro acc; rw [List.foldl_cons, ih, S.sem_conj, List.forall_mem_cons, and_assoc]
  exact (fold fs P.one).trans (and_iff_right (S.sem_one w hw))

/-- the three outcomes of `processConcl`: a fact first seen in this round is appended with the tag of the derivation;
    otherwise the derivation is or-ed into the stored tag, unless that changes nothing (`is_saturated`), and a fact
    known before the round is queued as improved -/
theorem processConcl_cases (P : Prov T) (known : List Fact) (ctag : T) (st : RState T) (c : Fact) :
    (c ∉ known ∧ c ∉ st.newFacts ∧
      processConcl P known ctag st c = ⟨setTag st.tags c ctag, st.newFacts ++ [c], st.improved⟩) ∨
    ((c ∈ known ∨ c ∈ st.newFacts) ∧
      ((P.saturated (getTag P st.tags c) (P.disj (getTag P st.tags c) ctag) = true ∧
          processConcl P known ctag st c = st) ∨
        ∃ imp, (∀ g, g ∈ imp ↔ g ∈ st.improved ∨ g = c ∧ c ∈ known) ∧
          processConcl P known ctag st c = ⟨setTag st.tags c (P.disj (getTag P st.tags c) ctag), st.newFacts, imp⟩)) := by
  unfold processConcl
  have hnew_iff : (!known.contains c && !st.newFacts.contains c) = true ↔ c ∉ known ∧ c ∉ st.newFacts := by
    simp only [Bool.and_eq_true, Bool.not_eq_true', List.contains_eq_mem, decide_eq_false_iff_not]
  by_cases hnew : (!known.contains c && !st.newFacts.contains c) = true
  · rw [if_pos hnew]; exact Or.inl ⟨(hnew_iff.mp hnew).1, (hnew_iff.mp hnew).2, rfl⟩
  · rw [if_neg hnew]
    refine Or.inr ⟨Decidable.or_iff_not_not_and_not.mpr (mt hnew_iff.mpr hnew), ?_⟩
    by_cases hsat : P.saturated (getTag P st.tags c) (P.disj (getTag P st.tags c) ctag) = true
    · rw [if_pos hsat]; exact Or.inl ⟨hsat, rfl⟩
    · rw [if_neg hsat]
      refine Or.inr ⟨_, fun g => ?_, rfl⟩
      by_cases hk : c ∈ known
      · simp only [List.contains_eq_mem, hk, decide_true, Bool.not_true, Bool.false_eq_true, if_false,
          List.mem_append, List.mem_singleton, and_true]
      · simp only [List.contains_eq_mem, hk, decide_false, Bool.not_false, if_true, and_false, or_false]

def Holds (known : List Fact) (st : RState T) (g : Fact) (w : W) : Prop :=
  (g ∈ known ∨ g ∈ st.newFacts) ∧ S.sem (getTag P st.tags g) w

theorem holds_processConcl (known : List Fact) (ctag : T) (st : RState T) (c g : Fact) (w : W) :
    Holds S known (processConcl P known ctag st c) g w ↔ Holds S known st g w ∨ g = c ∧ S.sem ctag w := by
  rcases processConcl_cases P known ctag st c with ⟨hk, hn, e⟩ | ⟨hm, ⟨hsat, e⟩ | ⟨_, _, e⟩⟩ <;> rw [e]
  · by_cases hcg : g = c
    · subst hcg
      simp only [Holds, getTag_setTag, if_true, List.mem_append, List.mem_singleton, hk, hn, or_self, false_and,
        false_or, true_and, or_true]
    · simp only [Holds, getTag_setTag, if_neg (Ne.symm hcg), List.mem_append, List.mem_singleton, hcg, or_false,
        false_and]
  · exact ⟨Or.inl, fun h => h.elim id fun ⟨hcg, hc⟩ =>
      hcg ▸ ⟨hm, (S.sem_sat _ _ w hsat).mp ((S.sem_disj _ _ w).mpr (Or.inr hc))⟩⟩
  · by_cases hcg : g = c
    · subst hcg
      simp only [Holds, getTag_setTag, if_true, S.sem_disj, hm, true_and]
    · simp only [Holds, getTag_setTag, if_neg (Ne.symm hcg), hcg, false_and, or_false]

theorem holds_processJob (known : List Fact) (st : RState T) (j : Job) (g : Fact) (w : W) (hw : S.ok w) :
    Holds S known (processJob P known st j) g w ↔
      Holds S known st g w ∨ g ∈ j.concls ∧ ∀ p ∈ j.prems, S.sem (getTag P st.tags p) w := by
  rw [← sem_conjTags S st.tags w hw j.prems]
  unfold processJob
  by_cases hz : P.isZero (conjTags P st.tags j.prems) = true
  · rw [if_pos hz]; exact ⟨Or.inl, fun h => h.resolve_right fun h => S.sem_zero _ w hw hz h.2⟩
  · rw [if_neg hz]
    clear hz
    generalize conjTags P st.tags j.prems = ctag
    generalize j.concls = cs
    induction cs generalizing st with
    | nil => exact ⟨Or.inl, fun h => h.resolve_right fun h => nomatch h.1⟩
    | cons c cs ih => rw [List.foldl_cons, ih, holds_processConcl, or_assoc, List.mem_cons, or_and_right]

/-- monotone growth of a round state (relative to the facts `known` at the start of the round): tags of facts of the
    round (known, or appended by it) only gain worlds, a known fact whose tag changed is queued as improved, and only
    known facts are -/
structure Grow (known : List Fact) (st st' : RState T) : Prop where
  mono : ∀ g w, Holds S known st g w → Holds S known st' g w
  track : ∀ g, g ∈ known → g ∉ st'.improved → g ∉ st.improved ∧ getTag P st'.tags g = getTag P st.tags g
  impKnown : (∀ g ∈ st.improved, g ∈ known) → ∀ g ∈ st'.improved, g ∈ known

theorem Grow.refl (known : List Fact) (st : RState T) : Grow S known st st :=
  ⟨fun _ _ h => h, fun _ _ h => ⟨h, rfl⟩, fun h => h⟩

theorem Grow.trans {known : List Fact} {a b c : RState T} (h1 : Grow S known a b) (h2 : Grow S known b c) :
    Grow S known a c where
  mono g w h := h2.mono g w (h1.mono g w h)
  track g hk hn :=
    let ⟨hb, e2⟩ := h2.track g hk hn
    let ⟨ha, e1⟩ := h1.track g hk hb
    ⟨ha, e2.trans e1⟩
  impKnown h := h2.impKnown (h1.impKnown h)

theorem processConcl_grow (known : List Fact) (ctag : T) (st : RState T) (c : Fact) :
    Grow S known st (processConcl P known ctag st c) := by
  have mono : ∀ g w, Holds S known st g w → Holds S known (processConcl P known ctag st c) g w :=
    fun g w h => (holds_processConcl S known ctag st c g w).mpr (Or.inl h)
  rcases processConcl_cases P known ctag st c with ⟨hk, hn, e⟩ | ⟨_, ⟨_, e⟩ | ⟨imp, himp, e⟩⟩ <;> rw [e] at mono ⊢
  · exact ⟨mono, fun _ hg hni => ⟨hni, (getTag_setTag ..).trans (if_neg (fun (e : c = _) => hk (e ▸ hg)))⟩, fun h => h⟩
  · exact Grow.refl S known st
  · refine ⟨mono, fun g hg hni => ⟨fun h => hni ((himp g).mpr (Or.inl h)), ?_⟩, fun h g hg => ?_⟩
    · exact (getTag_setTag ..).trans (if_neg (fun (e : c = g) => hni ((himp g).mpr (Or.inr ⟨e.symm, e ▸ hg⟩))))
    · rcases (himp g).mp hg with hg | ⟨rfl, hk⟩
      · exact h g hg
      · exact hk

theorem processJob_grow (known : List Fact) (st : RState T) (j : Job) :
    Grow S known st (processJob P known st j) := by
  unfold processJob
  by_cases hz : P.isZero (conjTags P st.tags j.prems) = true
  · rw [if_pos hz]; exact Grow.refl S known st
  · rw [if_neg hz]
    exact List.foldlRecOn j.concls _ (Grow.refl S known st) fun st' h c _ => h.trans S (processConcl_grow S known _ st' c)

theorem foldJobs_grow (known : List Fact) (js : List Job) (st : RState T) :
    Grow S known st (js.foldl (processJob P known) st) :=
  List.foldlRecOn js _ (Grow.refl S known st) fun st' h j _ => h.trans S (processJob_grow S known st' j)

/-- the premises are asked to hold when the fold starts, not in the state the job meets: they still hold there -/
theorem foldJobs_gain (known : List Fact) (js : List Job) (st : RState T) (j : Job) (hj : j ∈ js) (w : W) (hw : S.ok w)
    (hp : ∀ p ∈ j.prems, Holds S known st p w) :
    ∀ c ∈ j.concls, Holds S known (js.foldl (processJob P known) st) c w := by
  intro c hc
  obtain ⟨l₁, l₂, rfl⟩ := List.append_of_mem hj
  rw [List.foldl_append, List.foldl_cons]
  exact (foldJobs_grow S known l₂ _).mono c w ((holds_processJob S known _ j c w hw).mpr
    (Or.inr ⟨hc, fun p hpp => ((foldJobs_grow S known l₁ st).mono p w (hp p hpp)).2⟩))

def SoundSt (Der : W → Fact → Prop) (known : List Fact) (st : RState T) : Prop :=
  ∀ g w, S.ok w → Holds S known st g w → Der w g

theorem processJob_sound (Der : W → Fact → Prop) (known : List Fact) (st : RState T) (j : Job)
    (hs : SoundSt S Der known st)
    (hj : ∀ w, S.ok w → (∀ p ∈ j.prems, Der w p) → ∀ c ∈ j.concls, Der w c)
    (hk : ∀ p ∈ j.prems, p ∈ known) :
    SoundSt S Der known (processJob P known st j) := fun g w hw h =>
  ((holds_processJob S known st j g w hw).mp h).elim (hs g w hw) fun h =>
    hj w hw (fun p hp => hs p w hw ⟨Or.inl (hk p hp), h.2 p hp⟩) g h.1

abbrev DerW (rules : List Rule) (inputs : W → Fact → Prop) : W → Fact → Prop := fun w => Derivable rules (inputs w)

theorem Derivable.of_instance {rules : List Rule} {F : Fact → Prop} {r : Rule} (hr : r ∈ rules) (σ : String → Nat)
    (hp : ∀ p ∈ r.prem.map (instV σ), Derivable rules F p) : ∀ c ∈ r.concl.map (instV σ), Derivable rules F c := by
  intro c hc
  obtain ⟨cp, hcp, rfl⟩ := List.mem_map.mp hc
  exact Derivable.rule hr (fun p hpm => hp _ (List.mem_map_of_mem hpm)) hcp

/-- loop invariant of `iter` at a round boundary: `all` = facts so far, `delta` = effective delta of the next round -/
structure Inv (rules : List Rule) (inputs : W → Fact → Prop) (all delta : List Fact) (tags : Tags T) : Prop where
  sound : ∀ g ∈ all, ∀ w, S.ok w → S.sem (getTag P tags g) w → DerW rules inputs w g
  deltaSub : ∀ g ∈ delta, g ∈ all
  base : ∀ w, S.ok w → ∀ g, inputs w g → g ∈ all ∧ S.sem (getTag P tags g) w
  closed : ∀ r ∈ rules, ∀ σ : String → Nat, (∀ p ∈ r.prem, instV σ p ∈ all) →
    (∃ p ∈ r.prem, instV σ p ∈ delta) ∨
    (∀ w, S.ok w → (∀ p ∈ r.prem, S.sem (getTag P tags (instV σ p)) w) →
      ∀ c ∈ r.concl, instV σ c ∈ all ∧ S.sem (getTag P tags (instV σ c)) w)

/-- soundness alone holds for *every* reachable tag store, also mid-round and when fuel runs out: any prefix of the
    jobs of a round keeps all tags sound -/
theorem prefix_sound {rules : List Rule} {inputs : W → Fact → Prop} {all delta : List Fact} {tags : Tags T}
    (h : Inv S rules inputs all delta tags) (k : Nat) :
    SoundSt S (DerW rules inputs) all (((jobs rules all delta).take k).foldl (processJob P all) ⟨tags, [], []⟩) := by
  refine List.foldlRecOn _ _ (fun g w hw ⟨hgm, hsem⟩ => h.sound g (hgm.resolve_right fun hn => nomatch hn) w hw hsem)
    fun st' hs j hj => ?_
  obtain ⟨r, hr, σ, rfl, hk⟩ := jobs_sound h.deltaSub (List.mem_of_mem_take hj)
  exact processJob_sound S _ all st' _ hs (fun w _ => Derivable.of_instance hr σ) hk

theorem round_inv {rules : List Rule} {inputs : W → Fact → Prop} {all delta : List Fact} {tags : Tags T}
    (hsafe : ∀ r ∈ rules, safeRule r = true) (h : Inv S rules inputs all delta tags) :
    let st := round P rules all delta tags
    Inv S rules inputs (all ++ st.newFacts) (st.newFacts ++ st.improved) st.tags := by
  intro st
  have hg : Grow S all ⟨tags, [], []⟩ st := foldJobs_grow S all _ _
  have hsound : SoundSt S (DerW rules inputs) all st := by
    have := prefix_sound S h (jobs rules all delta).length
    rwa [List.take_length] at this
  have himp : ∀ g ∈ st.improved, g ∈ all := hg.impKnown (fun _ hgm => nomatch hgm)
  refine ⟨fun g hgm w hw hsem => hsound g w hw ⟨List.mem_append.mp hgm, hsem⟩, fun g hgm => ?_, fun w hw g hgi => ?_,
    fun r hr σ hall => ?_⟩
  · exact List.mem_append.mpr ((List.mem_append.mp hgm).symm.imp_left (himp g))
  · obtain ⟨h1, h2⟩ := h.base w hw g hgi
    exact ⟨List.mem_append_left _ h1, (hg.mono g w ⟨Or.inl h1, h2⟩).2⟩
  · -- if no premise is new or improved, all premises were known with the tags they still have
    refine Classical.or_iff_not_imp_left.mpr fun hpend w hw hsem c hc => ?_
    have hall' : ∀ p ∈ r.prem, instV σ p ∈ all := fun p hp =>
      (List.mem_append.mp (hall p hp)).resolve_right fun hn => hpend ⟨p, hp, List.mem_append_left _ hn⟩
    have hsem0 : ∀ p ∈ r.prem, S.sem (getTag P tags (instV σ p)) w := fun p hp => by
      rw [← (hg.track _ (hall' p hp) fun hi => hpend ⟨p, hp, List.mem_append_right _ hi⟩).2]; exact hsem p hp
    have : Holds S all st (instV σ c) w := by
      rcases h.closed r hr σ hall' with hdel | hcl
      · -- the instance is a job of this round
        refine foldJobs_gain S all _ ⟨tags, [], []⟩ _ (jobs_complete hr (hsafe r hr) h.deltaSub σ hall' hdel)
          w hw (fun p hp => ?_) _ (List.mem_map_of_mem hc)
        obtain ⟨q, hq, rfl⟩ := List.mem_map.mp hp
        exact ⟨Or.inl (hall' q hq), hsem0 q hq⟩
      · obtain ⟨h1, h2⟩ := hcl w hw hsem0 c hc
        exact hg.mono _ w ⟨Or.inl h1, h2⟩
    exact ⟨List.mem_append.mpr this.1, this.2⟩

/-- soundness and completeness of the result of `iter` (when it reports a fixpoint, i.e. does not run out of fuel) -/
theorem iter_exact {rules : List Rule} {inputs : W → Fact → Prop} (hsafe : ∀ r ∈ rules, safeRule r = true) :
    ∀ (fuel : Nat) (all delta : List Fact) (tags : Tags T) (all' : List Fact) (tags' : Tags T),
    Inv S rules inputs all delta tags → iter P rules fuel all delta tags = some (all', tags') →
    (∀ g ∈ all', ∀ w, S.ok w → S.sem (getTag P tags' g) w → DerW rules inputs w g) ∧
    (∀ w, S.ok w → ∀ g, DerW rules inputs w g → g ∈ all' ∧ S.sem (getTag P tags' g) w) ∧
    (∀ g ∈ all, g ∈ all') := by
  intro fuel
  induction fuel with
  | zero => intro all delta tags all' tags' _ h; cases h
  | succ n ih =>
    intro all delta tags all' tags' hinv h
    have hr := round_inv S hsafe hinv
    rw [iter] at h
    generalize round P rules all delta tags = st at h hr
    by_cases hstop : (st.newFacts.isEmpty && st.improved.isEmpty) = true
    · rw [if_pos hstop] at h
      simp only [Bool.and_eq_true, List.isEmpty_iff] at hstop
      cases h
      simp only [hstop.1, hstop.2, List.append_nil] at hr
      refine ⟨hr.sound, fun w hw g hd => ?_, fun g h => h⟩
      -- with an empty delta, `closed` says the store is closed under every rule instance
      induction hd with
      | base hb => exact hr.base w hw _ hb
      | @rule r σ c hrm _ hc ihp =>
        rcases hr.closed r hrm σ (fun p hp => (ihp p hp).1) with ⟨_, _, hpm⟩ | hcl
        · cases hpm
        · exact hcl w hw (fun p hp => (ihp p hp).2) c hc
    · rw [if_neg hstop] at h
      obtain ⟨h1, h2, h3⟩ := ih _ _ _ _ _ hr h
      exact ⟨h1, h2, fun g hg => h3 g (List.mem_append_left _ hg)⟩

end Kolibrie.Prov
