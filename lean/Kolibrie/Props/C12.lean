import Kolibrie.Lemmas.SdsInc
/-
C12 — incremental cross-window reasoning equals recomputation from scratch.

Model: `Kolibrie/Model/Sds.lean` (`translate`, `stripPrefix`, `naiveFacts`, `incStep` on the C06 engine at the
(max, min) expiry semiring).  Spec: `Kolibrie/Spec/Sds.lean` + `Derivable` read at expiry thresholds.

Reading of the statement: at evaluation time `now`, over the alive base facts `base` (each with its own expiry),
  * from-scratch reasoning yields the facts derivable from `base`;
  * "the latest time until which some derivation stays fully supported" is the largest threshold `τ` such that the fact
    is derivable from the base facts whose expiry is ≥ τ (max over derivations of min over premises).
`ExactAt rules base now state` says both: for every `τ ∈ (now, u64::MAX]`, `state` lists the fact with expiry ≥ τ
iff it is derivable at threshold τ.

Forced hypotheses, all decidable and reported by the driver (`H`): window consistency of consecutive evaluations
(`consistentStep`, the property's own hypothesis), unchanged static graphs, rule heads with annotated constant
predicates (`heads_not_annotated`), unambiguous annotation (`ambiguous_annotation`).
-/
namespace Kolibrie.Props.C12
open Kolibrie.Prov

/-! ## 1. The expiry semiring regenerated from `ExpirationProvenance` is a distributive lattice -/

theorem expiry_semiring_laws (a b c : Nat) :
    Extracted.expDisj a a = a ∧ Extracted.expConj a a = a ∧
    Extracted.expDisj a b = Extracted.expDisj b a ∧ Extracted.expConj a b = Extracted.expConj b a ∧
    Extracted.expDisj a (Extracted.expConj a b) = a ∧ Extracted.expConj a (Extracted.expDisj a b) = a ∧
    Extracted.expConj a (Extracted.expDisj b c) = Extracted.expDisj (Extracted.expConj a b) (Extracted.expConj a c) ∧
    Extracted.expDisj 0 a = a ∧ Extracted.expConj 0 a = 0 := by
  unfold Extracted.expDisj Extracted.expConj
  exact ⟨Nat.max_self a, Nat.min_self a, Nat.max_comm a b, Nat.min_comm a b,
    Nat.max_eq_left (Nat.min_le_left a b), Nat.min_eq_left (Nat.le_max_left a b), Nat.min_max_distrib_left a b c,
    Nat.zero_max a, Nat.zero_min a⟩

/-- each threshold is a homomorphism of the expiry semiring into the Booleans -/
theorem expiry_threshold_hom (a b τ : Nat) :
    (τ ≤ Extracted.expDisj a b ↔ τ ≤ a ∨ τ ≤ b) ∧ (τ ≤ Extracted.expConj a b ↔ τ ≤ a ∧ τ ≤ b) :=
  ⟨le_expDisj a b τ, le_expConj a b τ⟩

/-! ## 2. Predicate annotation -/

/-- `strip_window_prefix (annotate_predicate w l) = (w, l)` when the component list is ordered longest first (as
    `all_component_iris` orders it) and no component IRI extends `w` into the local name -/
theorem annotate_strip_inverse (comps : List Str) (w l : Str)
    (hsorted : comps.Pairwise (fun a b => b.length ≤ a.length)) (hw : w ∈ comps)
    (hun : ∀ c ∈ comps, c <+: w ++ l → c.length ≤ w.length) :
    stripPrefix (annotate w l) comps = some (w, l) := by
  unfold annotate
  induction comps with
  | nil => cases hw
  | cons c rest ih =>
    rw [List.pairwise_cons] at hsorted
    rw [stripPrefix]
    by_cases hpre : List.isPrefixOf c (w ++ l) = true
    · -- a prefix of `w ++ l` that is listed no later than `w` and is at most as long as `w` is `w`
      rw [if_pos hpre]
      rw [List.isPrefixOf_iff_prefix] at hpre
      have hle := hun c List.mem_cons_self hpre
      have hcw : c = w := by
        rcases List.mem_cons.mp hw with h | h
        · exact h.symm
        · exact (List.prefix_of_prefix_length_le hpre (List.prefix_append w l) hle).eq_of_length
            (Nat.le_antisymm hle (hsorted.1 w h))
      rw [hcw, List.drop_left]
    · rw [if_neg hpre]
      have hw' : w ∈ rest := (List.mem_cons.mp hw).resolve_left fun h =>
        hpre (List.isPrefixOf_iff_prefix.mpr (h ▸ List.prefix_append w l))
      exact ih hsorted.2 hw' (fun c' hc' => hun c' (List.mem_cons_of_mem _ hc'))

/-- without the hypothesis the inverse fails: window `w/x` captures the local name `xp` of window `w/` -/
theorem annotate_strip_clash :
    ∃ (comps : List Str) (w l : Str), w ∈ comps ∧ stripPrefix (annotate w l) comps ≠ some (w, l) :=
  ⟨["w/x".toList, "w/".toList], "w/".toList, "xp".toList, by decide +kernel, by decide +kernel⟩

example : stripPrefix (annotate "http://sensor/".toList "reading".toList)
    ["http://sensor/".toList, "http://map/".toList] = some ("http://sensor/".toList, "reading".toList) := by decide +kernel

/-! ## 3. From-scratch reasoning -/

/-- `naive_sds_plus` (fact set): exactly the facts derivable from the alive base facts -/
theorem naive_exact (rules : List Rule) (base : List (Fact × Nat)) (fuel : Nat) (M : List Fact)
    (hsafe : ∀ r ∈ rules, safeRule r = true) (hne : ∀ r ∈ rules, r.prem ≠ [])
    (h : naiveFacts rules base fuel = some M) (g : Fact) :
    g ∈ M ↔ Derivable rules (fun f => ∃ e, (f, e) ∈ base) g := by
  unfold naiveFacts at h
  obtain ⟨⟨all, tags⟩, hit, rfl⟩ := Option.map_eq_some_iff.mp h
  obtain ⟨h1, h2, _⟩ := iter_exact boolSem hsafe fuel _ _ _ all tags (inv_init boolSem rules _ [] hne) hit
  -- nothing is tagged, so every fact is an input and every tag stays `true`
  have hin : ∀ f, inputsW boolSem ((base.map (·.1)).eraseDups) ([] : Tags Bool) () f ↔ ∃ e, (f, e) ∈ base := by
    intro f
    simp only [inputsW, List.mem_eraseDups, List.mem_map, Prod.exists, exists_and_right, exists_eq_right]
    exact and_iff_left rfl
  have htrue : ∀ g, getTag boolProv tags g = true :=
    TagClosed.iter (P := boolProv) (Q := (· = true))
      ⟨rfl, fun _ _ ha hb => by subst ha hb; rfl, fun _ _ ha hb => by subst ha hb; rfl⟩
      rules fuel _ _ _ all tags (fun _ => rfl) hit
  rw [← Derivable.iff_congr hin g]
  exact ⟨fun hg => h1 g hg () trivial (htrue g), fun hd => (h2 () trivial g hd).1⟩

/-! ## 4. Tagged from-scratch evaluation computes the expiry fixpoint -/

/-- `expiry_lfp`: evaluating from an empty state (everything is new: the delta is the whole alive dataset) yields,
    for every threshold, exactly the facts derivable at that threshold: the kept expiry is
    max over derivations of min over premises -/
theorem expiry_lfp (rules : List Rule) (keep : Fact → Bool) (base : List (Fact × Nat)) (now fuel : Nat)
    (out : List (Fact × Nat)) (hyp : StepHyp rules keep [] base [] now now)
    (h : incStep rules keep base [] now fuel = some out) : ExactAt rules base now out :=
  (incStep_exact rules keep [] base [] now now fuel out hyp (exactAt_nil rules hyp.nonempty now) h).1

/-! ## 5. One incremental step, and whole histories -/

/-- `inc_step`: if the carried state is exact for the previous evaluation and the two evaluations are window
    consistent, `incremental_sds_plus` returns a state that is exact for the current evaluation
    (the carried tags are valid lower bounds and the engine's invariant holds with `d_new` as delta: `carry_inv`) -/
theorem inc_step (rules : List Rule) (keep : Fact → Bool) (basePrev base prev : List (Fact × Nat))
    (tPrev now fuel : Nat) (out : List (Fact × Nat)) (hyp : StepHyp rules keep basePrev base prev tPrev now)
    (hprev : ExactAt rules basePrev tPrev prev) (h : incStep rules keep base prev now fuel = some out) :
    ExactAt rules base now out ∧ ∀ e ∈ out, keep e.1 = true :=
  incStep_exact rules keep basePrev base prev tPrev now fuel out hyp hprev h

/-- a history: the alive annotated facts and the time of each evaluation, oldest first -/
abbrev History := List (List (Fact × Nat) × Nat)

/-- `incremental_sds_plus` threaded through a history -/
def runHist (rules : List Rule) (keep : Fact → Bool) (fuel : Nat) : History → List (Fact × Nat) → Option (List (Fact × Nat))
  | [], st => some st
  | (base, now) :: rest, st =>
    match incStep rules keep base st now fuel with
    | none => none
    | some st' => runHist rules keep fuel rest st'

/-- `WindowConsistent`: every consecutive pair of evaluations satisfies the step hypotheses, whatever state of kept
    facts the earlier evaluation returned -/
def WindowConsistent (rules : List Rule) (keep : Fact → Bool) :
    List (Fact × Nat) → Nat → List (Fact × Nat) → History → Prop
  | _, _, _, [] => True
  | basePrev, tPrev, prev, (base, now) :: rest =>
    StepHyp rules keep basePrev base prev tPrev now ∧
    ∀ st', (∀ e ∈ st', keep e.1 = true) → WindowConsistent rules keep base now st' rest

/-- `inc_eq_naive`: along every window-consistent history and every non-decreasing sequence of evaluation times, the
    incrementally maintained state is exact at the last evaluation (hence at every evaluation: prefixes of
    window-consistent histories are window consistent) -/
theorem inc_eq_naive (rules : List Rule) (keep : Fact → Bool) (fuel : Nat) : ∀ (hist : History)
    (basePrev : List (Fact × Nat)) (tPrev : Nat) (prev : List (Fact × Nat)) (out : List (Fact × Nat)),
    ExactAt rules basePrev tPrev prev → WindowConsistent rules keep basePrev tPrev prev hist →
    runHist rules keep fuel hist prev = some out →
    ExactAt rules ((hist.getLast?.map (·.1)).getD basePrev) ((hist.getLast?.map (·.2)).getD tPrev) out := by
  intro hist
  induction hist with
  | nil => intro basePrev tPrev prev out hex _ h; simp only [runHist, Option.some.injEq] at h; subst h; simpa using hex
  | cons step rest ih =>
    intro basePrev tPrev prev out hex hwc h
    obtain ⟨base, now⟩ := step
    rw [runHist] at h
    cases hst : incStep rules keep base prev now fuel with
    | none => rw [hst] at h; cases h
    | some st' =>
      rw [hst] at h
      obtain ⟨hex', hk⟩ := incStep_exact rules keep basePrev base prev tPrev now fuel st' hwc.1 hex hst
      have := ih base now st' out hex' (hwc.2 st' hk) h
      -- the last evaluation of `(base, now) :: rest` is that of `rest`, or `(base, now)` itself
      rw [List.getLast?_cons]
      cases hl : rest.getLast? with
      | none => rw [hl] at this; exact this
      | some x => rw [hl] at this; exact this

/-- incremental and from-scratch fact sets coincide (`inc = naive`, both inclusions): an exact state whose entries all
    expire after `now` lists exactly the facts from-scratch reasoning derives from the alive facts (all of which have
    expiry > `now`).  `hlive` is a hypothesis on the state: `ExactAt` does not give it (no threshold sees an entry
    with expiry ≤ `now`) and `inc_step` does not conclude it. -/
theorem inc_facts_eq_naive (rules : List Rule) (base state : List (Fact × Nat)) (now fuel : Nat) (M : List Fact)
    (hsafe : ∀ r ∈ rules, safeRule r = true) (hne : ∀ r ∈ rules, r.prem ≠ [])
    (halive : ∀ e ∈ base, now < e.2 ∧ e.2 ≤ u64Max) (hlive : ∀ e ∈ state, now < e.2)
    (hex : ExactAt rules base now state) (hnow : now < u64Max)
    (hn : naiveFacts rules base fuel = some M) (g : Fact) : (∃ e, (g, e) ∈ state) ↔ g ∈ M := by
  -- at threshold `now + 1` the expiries impose nothing
  have hin : ∀ f, inputsB base (now + 1) f ↔ ∃ e, (f, e) ∈ base := fun f =>
    ⟨fun ⟨e, he, _⟩ => ⟨e, he⟩, fun ⟨e, he⟩ => ⟨e, he, (halive _ he).1⟩⟩
  rw [naive_exact rules base fuel M hsafe hne hn g, ← Derivable.iff_congr hin g,
    ← hex.exact (now + 1) (Nat.lt_succ_self now) hnow g]
  exact ⟨fun ⟨e, he⟩ => ⟨e, he, hlive _ he⟩, fun ⟨e, he, _⟩ => ⟨e, he⟩⟩

/-- reading of `ExactAt`, expiries: the expiry kept for a fact is the largest threshold (up to `u64::MAX`) at which
    the fact is derivable from the alive facts of at least that expiry -/
theorem exact_expiry (rules : List Rule) (base state : List (Fact × Nat)) (now : Nat)
    (hex : ExactAt rules base now state) (g : Fact) (e : Nat) (hm : (g, e) ∈ state) (τ : Nat) (h1 : now < τ)
    (h2 : τ ≤ u64Max) : τ ≤ e ↔ Derivable rules (inputsB base τ) g := by
  rw [← hex.exact τ h1 h2 g]
  exact ⟨fun hle => ⟨e, hm, hle⟩, fun ⟨e', hm', hle⟩ => hex.functional g e e' hm hm' ▸ hle⟩

/-! ## 6. Non-vacuity: the sensor scenario (join of two windows, then renewal of the short-lived premise) -/

def exRule : List Rule :=
  [⟨[⟨.var "s", .const 100, .var "v"⟩, ⟨.var "s", .const 101, .var "l"⟩], [], [⟨.var "s", .const 102, .var "l"⟩]⟩]
def exKeep : Fact → Bool := fun f => decide (100 ≤ f.p)
def exBase1 : List (Fact × Nat) := [(⟨1, 100, 2⟩, 15), (⟨1, 101, 3⟩, 23)]
def exBase2 : List (Fact × Nat) := [(⟨1, 100, 2⟩, 23), (⟨1, 101, 3⟩, 23)]

example : StepHyp exRule exKeep [] exBase1 [] 6 6 := by
  refine ⟨by decide, by decide, by decide, by decide, by decide, ?_, ?_, by decide, ?_⟩
  · intro g hg; exact Or.inl rfl
  · intro f f' h; simp [exKeep, h]
  · intro r hr c hc
    simp only [exRule, List.mem_singleton] at hr; subst hr
    simp only [List.mem_singleton] at hc; subst hc
    exact ⟨102, rfl, by decide⟩

example : runHist exRule exKeep 20 [(exBase1, 6), (exBase2, 14)] []
    = some [(⟨1, 100, 2⟩, 23), (⟨1, 101, 3⟩, 23), (⟨1, 102, 3⟩, 23)] := by decide +kernel

example : consistentStep exBase1 exBase2 14 = true := by decide +kernel

end Kolibrie.Props.C12
