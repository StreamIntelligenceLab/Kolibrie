import Kolibrie.Lemmas.Rsp
/-
C10 — each firing of a single-window continuous query sees exactly the current window, nothing older.

Model: `Kolibrie.Rsp.fire` (create_window_processor! + SimpleR2R::{add, remove, materialize} +
Relation2StreamOperator::eval), `run` over any history of fired window contents.
Spec: `specRun` — answers over `content ∪ derive content`, then the stream operator relative to the previous firing.
`mkCfg rules fuel pats op dropOnAdd`: Datalog rules (naive fixpoint, `fuel` rounds), BGP window plan, stream operator,
`dropOnAdd` = whether `SimpleR2R::add` forgets the added triple from `derived_triples` (repaired code: `true`;
the pinned tree: `false`, value extracted from the source on every run).
Statements are per firing and up to `List.Perm` (row order inside a firing is hash-map order in the code).
-/
namespace Kolibrie.Props.C10
open Kolibrie.Rsp

/-- The three stream operators, with the operator's own `last_result` memory, for every sequence of answer lists:
    RSTREAM all rows, ISTREAM the rows not among the previous answers (order and multiplicity kept),
    DSTREAM the previous answers (each once) that vanished.  Exact equality. -/
theorem r2s_spec (op : StreamOp) (rs : List (List Row)) : r2sRun op [] rs = specEmitRun op [] rs :=
  r2sRun_spec op rs (Or.inr rfl)

example : r2sRun .istream [] [[[(0, 1)], [(0, 2)]], [[(0, 2)], [(0, 3)], [(0, 3)]]] =
    [[[(0, 1)], [(0, 2)]], [[(0, 3)], [(0, 3)]]] := by decide +kernel
example : r2sRun .dstream [] [[[(0, 1)], [(0, 2)]], [[(0, 2)], [(0, 3)]]] = [[], [[(0, 1)]]] := by decide +kernel

/-- FULL STRENGTH (repaired code, any lawful reasoner/plan): for every history of fired window contents, every firing
    emits the specified rows. -/
theorem fire_spec_lawful (cfg : Cfg) (hl : Lawful cfg) (hd : cfg.dropOnAdd = true) (hist : List (List Triple)) :
    SeqPerm (run cfg hist) (specRun cfg hist) :=
  runFrom_spec hl hist inv_init (Or.inr ⟨List.nodup_nil, fun _ => Iff.rfl⟩) (Or.inl hd)

/-- FULL STRENGTH (repaired code, concrete engine): all rule sets × all BGP window queries × {R,I,D}STREAM × all
    histories of window contents (hence all in-order streams × window parameters): `fire = spec` at every firing. -/
theorem fire_spec (rules : List Rule) (fuel : Nat) (pats : List Pat) (op : StreamOp) (hist : List (List Triple)) :
    SeqPerm (run (mkCfg rules fuel pats op true) hist) (specRun (mkCfg rules fuel pats op true) hist) :=
  fire_spec_lawful _ (mkCfg_lawful rules fuel pats op true) rfl hist

/-- "never triples or derived facts from evicted items or earlier firings" (repaired code): after any history ending
    with content `c`, the store that the window query runs against holds exactly `c` and what the rules derive from
    `c` — each triple once. -/
theorem store_exact (rules : List Rule) (fuel : Nat) (pats : List Pat) (op : StreamOp)
    (hist : List (List Triple)) (c : List Triple) :
    let cfg := mkCfg rules fuel pats op true
    let st := stateAfter cfg St.init (hist ++ [c])
    st.store.Nodup ∧ ∀ x, x ∈ st.store ↔ x ∈ c ∨ x ∈ cfg.derive (dedup c) := by
  intro cfg st
  have h := stateAfter_inv (mkCfg_lawful rules fuel pats op true) rfl hist inv_init c
  exact ⟨h.nodup, h.mem⟩

/- FULL: ∀ rules fuel pats op hist,
     SeqPerm (run (mkCfg rules fuel pats op false) hist) (specRun (mkCfg rules fuel pats op false) hist)
   — false of the code on the pinned tree (`fire_clash`).  Missing: histories in which a firing's raw content contains a
   triple that the previous firing derived. `NoRawDerivedClash` is the forced, decidable hypothesis (reported by the
   driver as `raw_equals_prev_derived` when violated). -/
/-- PARTIAL (code on the pinned tree: `SimpleR2R::add` does not touch `derived_triples`). -/
theorem fire_spec_partial (rules : List Rule) (fuel : Nat) (pats : List Pat) (op : StreamOp)
    (hist : List (List Triple)) (h : NoRawDerivedClash (mkCfg rules fuel pats op false) hist = true) :
    SeqPerm (run (mkCfg rules fuel pats op false) hist) (specRun (mkCfg rules fuel pats op false) hist) :=
  runFrom_spec (mkCfg_lawful rules fuel pats op false) hist inv_init
    (Or.inr ⟨List.nodup_nil, fun _ => Iff.rfl⟩) (Or.inr h)

/-- the witness vocabulary: rule `?x 10 ?y ⇒ ?x 11 3`, query `?x 11 3` -/
def wRules : List Rule := [⟨[⟨.var 0, .const 10, .var 1⟩], [⟨.var 0, .const 11, .const 3⟩]⟩]
def wQuery : List Pat := [⟨.var 0, .const 11, .const 3⟩]

/-- non-vacuity of `fire_spec_partial`: a history with derivations and overlap that satisfies the hypothesis -/
example : NoRawDerivedClash (mkCfg wRules 8 wQuery .istream false)
    [[⟨1, 10, 2⟩], [⟨1, 10, 2⟩, ⟨2, 11, 3⟩], [⟨2, 10, 2⟩]] = true := by decide +kernel

/-- The hypothesis is forced: window 1 holds `1 10 2` (derives `1 11 3`), window 2 holds raw `1 11 3` only; the code
    on the pinned tree emits nothing at the second firing, the specification demands `?x = 1`. -/
theorem fire_clash : ∃ (rules : List Rule) (fuel : Nat) (pats : List Pat) (hist : List (List Triple)),
    ¬ SeqPerm (run (mkCfg rules fuel pats .rstream false) hist) (specRun (mkCfg rules fuel pats .rstream false) hist) := by
  refine ⟨wRules, 8, wQuery, [[⟨1, 10, 2⟩], [⟨1, 11, 3⟩]], ?_⟩
  have hm : run (mkCfg wRules 8 wQuery .rstream false) [[⟨1, 10, 2⟩], [⟨1, 11, 3⟩]] = [[[(0, 1)]], []] := by decide +kernel
  have hs : specRun (mkCfg wRules 8 wQuery .rstream false) [[⟨1, 10, 2⟩], [⟨1, 11, 3⟩]] = [[[(0, 1)]], [[(0, 1)]]] := by decide +kernel
  rw [hm, hs]
  intro h
  have := h.2.1.length_eq
  simp at this

/-- the same witness on the repaired code agrees with the specification -/
example : run (mkCfg wRules 8 wQuery .rstream true) [[⟨1, 10, 2⟩], [⟨1, 11, 3⟩]] = [[[(0, 1)]], [[(0, 1)]]] := by decide +kernel

/-- Worker pipeline of `register_window!(MultiThread)` (producer → FIFO channel → worker holding the store mutex while
    it processes): under EVERY schedule of producer pushes and worker phases, once everything is consumed the consumer
    has seen exactly the single-threaded emission sequence.  (Model level; real OS interleavings are only exercised.) -/
theorem pipeline_deterministic (cfg : Cfg) (hist : List (List Triple)) (sched : List Step)
    (hfin : ((Pipe.init hist).runSched cfg sched).finished = true) :
    ((Pipe.init hist).runSched cfg sched).emitted = run cfg hist :=
  (Pipe.finished_total cfg _ hfin).symm.trans
    ((Pipe.runSched_total cfg sched _).trans (Pipe.total_init cfg hist))

/-- at every point of every schedule, what was emitted so far is a prefix of the single-threaded sequence -/
theorem pipeline_prefix (cfg : Cfg) (hist : List (List Triple)) (sched : List Step) :
    ∃ rest, ((Pipe.init hist).runSched cfg sched).emitted ++ rest = run cfg hist :=
  ⟨_, (Pipe.runSched_total cfg sched _).trans (Pipe.total_init cfg hist)⟩

/-- non-vacuity: two different complete schedules of a two-firing history (producer far ahead / strictly alternating) -/
example : ((Pipe.init [[⟨1, 10, 2⟩], [⟨1, 11, 3⟩]]).runSched (mkCfg wRules 8 wQuery .rstream true)
    [.push, .push, .recv, .work, .emit, .recv, .work, .emit]).finished = true := by decide +kernel
example : ((Pipe.init [[⟨1, 10, 2⟩], [⟨1, 11, 3⟩]]).runSched (mkCfg wRules 8 wQuery .rstream true)
    [.push, .recv, .work, .push, .emit, .emit, .recv, .push, .work, .emit]).finished = true := by decide +kernel

end Kolibrie.Props.C10
