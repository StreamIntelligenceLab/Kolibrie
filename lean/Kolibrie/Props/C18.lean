import Kolibrie.Lemmas.SldComplete
import Kolibrie.Lemmas.SldSpec
/-!
# C18 — backward chaining returns only entailed answers, and all shallow ones

Property theorems only (helper lemmas: `Lemmas/Sld*.lean`; the executable specification reuses the matcher lemmas of
`Lemmas/Repairs.lean`).  Model: `Model/Sld.lean` — `backward_chaining.rs` **with**
`fixes/C18_rename_apart_from_goal.patch` (generated names `v{n}` skip the goal's own variable names); the code at
the pinned commit is the same model run with an empty reserved list (`bcOld`).  Specification: `Spec/Sld.lean`
(`Derivable`, `DerivableD` = derivation height ≤ n, `Matches`).

Quantifiers: all fact lists, all rule lists (positive, filter-free; rule safety is **not** needed), all goal patterns
— no hypothesis on the names of the goal's variables — and every depth limit (`bc` instantiates the limit with the
`MAX_DEPTH` extracted from the source).  A returned answer is a set of bindings `b`; `Sat σ b` says the ground
valuation `σ` solves `b` (`σ v = σ t` for every binding `v ↦ t`); then `(substitute b goal).inst σ = goal.inst σ`.
-/
namespace Kolibrie.Props.C18
open Kolibrie.Terms Kolibrie.Sld Kolibrie.SldSpec

/-- **Soundness.** Every ground solution of a returned answer maps the goal to a fact of the least model
    (any depth limit, any variable names, rules need not be safe). -/
theorem bc_sound_partial (d : Nat) (F : List Fact) (P : List Rule) (goal : Pattern) (b : Subst)
    (hb : b ∈ bcWith d F P goal) : ∀ σ, Sat σ b → Derivable F P (goal.inst σ) :=
  fun σ hs => (bcAux_sound F P goal.vars (d + 1) goal [] 0 b hb σ hs).2

/- FULL: `b ∈ bc F P goal → ∀ τ, Derivable F P ((substitute b goal).inst τ)` — every grounding of the answer applied to
   the goal with `resolve_term`.  Gap: this needs the invariant that returned bindings are in solved form (acyclic, a key
   is unbound when inserted), under which `fun x => (resolveT b (.var x)).eval τ` is a solution of `b`; that invariant is
   not proved here.  `bc_sound_partial` covers every solution `σ` of `b`, and by `substitute_solution` the answer applied
   to the goal and the goal itself have the same instance under such a `σ`. -/

/-- under a solution of the answer, "the answer applied to the goal" and the goal denote the same fact -/
theorem substitute_solution (b : Subst) (goal : Pattern) (σ : String → Nat) (hs : Sat σ b) :
    (substitute b goal).inst σ = goal.inst σ := substitute_inst hs goal

/-- **The fix: generated names are new and never a variable of the goal** — the renamed rule is the rule under a
    variable map whose values are `v{k}` with `k` at or above the old counter and below the new one, pairwise distinct
    for distinct rule variables, and none of them is in the reserved list (the goal's variables). -/
theorem rename_apart (reserved : List String) (r : Rule) (c : Nat) :
    ∃ m : VarMap,
      (renameRule reserved r c).1.premise = r.premise.map (applyMapP m) ∧
      (renameRule reserved r c).1.conclusion = r.conclusion.map (applyMapP m) ∧
      c ≤ (renameRule reserved r c).2 ∧
      (∀ q, q ∈ r.premise ∨ q ∈ r.conclusion → PatMapped m q) ∧
      (∀ v n, (v, n) ∈ m → n ∉ reserved ∧ ∃ k, c ≤ k ∧ k < (renameRule reserved r c).2 ∧ n = genName k) ∧
      (∀ v v' n, (v, n) ∈ m → (v', n) ∈ m → v = v') := by
  obtain ⟨st, hi, he, hm⟩ := renameRule_fresh reserved r c
  rw [he]
  exact ⟨st.map, rfl, rfl, hi.le, hm, hi.rng, hi.inj⟩

/-- **Completeness.** Every fact of the least model with a derivation of height ≤ the depth limit that matches the goal
    is returned: some answer `b` has a solution `σ'` under which the answer applied to the goal is that fact —
    whatever the goal's variables are called. -/
theorem bc_complete_partial (d : Nat) (F : List Fact) (P : List Rule) (goal : Pattern) (f : Fact)
    (hd : DerivableD F P d f) (hm : Matches goal f) :
    ∃ b ∈ bcWith d F P goal, ∃ σ', Sat σ' b ∧ (substitute b goal).inst σ' = f := by
  obtain ⟨σ, hσ⟩ := hm
  have hgoal := patKnown_vars goal 0
  obtain ⟨b, hb, σ', hs, ha⟩ := (bcAux_good F P (d + 1) goal [] 0 (substKnown_nil 0) hgoal).finds σ
    ⟨sat_nil σ, d, Nat.lt_succ_self d, hσ ▸ hd⟩
  exact ⟨b, hb, σ', hs, by rw [substitute_inst hs, inst_agree ha hgoal, hσ]⟩

/- FULL: `… → ∃ b ∈ bc F P goal, substitute b goal = f.toPattern` (the answer applied to the goal *is* the fact).
   Gap: an answer may leave a goal variable unbound when a rule conclusion has a variable that does not occur in the
   rule's premises (an unsafe rule); for safe rules the resolved goal is ground and the two statements coincide, but
   groundness of answers under safety is not proved here.  What is proved: the fact is an instance of a returned answer. -/

example : DerivableD [⟨1, 5, 2⟩] [⟨[⟨.var "x", .const 5, .var "y"⟩], [⟨.var "y", .const 6, .var "x"⟩]⟩] 1 ⟨2, 6, 1⟩ ∧
    Matches ⟨.var "v0", .const 6, .var "v1"⟩ ⟨2, 6, 1⟩ := swap_witness

/-- soundness and completeness at the depth limit found in the source (`MAX_DEPTH`) -/
theorem bc_source_depth (F : List Fact) (P : List Rule) (goal : Pattern) :
    (∀ b ∈ bc F P goal, ∀ σ, Sat σ b → Derivable F P (goal.inst σ)) ∧
    (∀ f, DerivableD F P Kolibrie.Extracted.bcMaxDepth f → Matches goal f →
      ∃ b ∈ bc F P goal, ∃ σ', Sat σ' b ∧ (substitute b goal).inst σ' = f) :=
  ⟨fun b hb => bc_sound_partial _ F P goal b hb, fun f hd hm => bc_complete_partial _ F P goal f hd hm⟩

/-- the documented bound: derivations of height up to ten are found (re-checked against the source on every run) -/
theorem source_depth_at_least_ten : 10 ≤ Kolibrie.Extracted.bcMaxDepth := by decide

/-- `backward_chaining` as written at the pinned commit: nothing is reserved, generated names start at `v0` -/
def bcOld (d : Nat) (F : List Fact) (P : List Rule) (goal : Pattern) : List Subst :=
  (bcAux [] F P (d + 1) goal [] 0).1

/-- **The pre-fix code loses answers when the goal uses the engine's own names**: fact `1 p 2`, rule
    `x p y ⇒ y q x`; the goal `(?v0 q ?v1)` has the height-1 answer `2 q 1` but the pre-fix search returns nothing,
    while the same goal written `(?X q ?Y)` gets its answer — and so does `(?v0 q ?v1)` with the fix. -/
theorem bc_clash :
    ∃ (F : List Fact) (P : List Rule) (f : Fact), DerivableD F P 1 f ∧
      Matches ⟨.var "v0", .const 6, .var "v1"⟩ f ∧
      bcOld 10 F P ⟨.var "v0", .const 6, .var "v1"⟩ = [] ∧
      (bcOld 10 F P ⟨.var "X", .const 6, .var "Y"⟩).length = 1 ∧
      (bcWith 10 F P ⟨.var "v0", .const 6, .var "v1"⟩).length = 1 :=
  ⟨[⟨1, 5, 2⟩], [⟨[⟨.var "x", .const 5, .var "y"⟩], [⟨.var "y", .const 6, .var "x"⟩]⟩], ⟨2, 6, 1⟩,
    swap_witness.1, swap_witness.2, by decide +kernel, by decide +kernel, by decide +kernel⟩

/-- a fact with a derivation of height ≤ `n` is in the least model (one direction only) -/
theorem derivableD_sound (F : List Fact) (P : List Rule) (n : Nat) (f : Fact) (h : DerivableD F P n f) :
    Derivable F P f := by
  induction h with
  | fact hf => exact Derivable.fact hf
  | rule θ hr hc _ ih => exact Derivable.rule θ hr hc ih

/-- the executable specification the driver prints only lists bindings of facts with a derivation of height ≤ `d`
    that match the goal (the converse, for safe rules, is not proved: the driver's expected output is trusted to be
    complete only through the differential run) -/
theorem spec_answers_sound (F : List Fact) (P : List Rule) (d : Nat) (goal : Pattern) (b : Kolibrie.Repairs.Binding)
    (h : b ∈ specAnswers F P d goal) :
    ∃ f, DerivableD F P d f ∧ Kolibrie.Repairs.matchPat goal f [] = some b ∧ Matches goal f := by
  simp only [specAnswers, List.mem_filterMap] at h
  obtain ⟨f, hf, hm⟩ := h
  exact ⟨f, levels_sound F P d f hf, hm,
    ⟨_, (Kolibrie.Repairs.matchPat_agrees.1 ⟨b, hm, Kolibrie.Repairs.agrees_valOf b⟩).2⟩⟩

end Kolibrie.Props.C18
