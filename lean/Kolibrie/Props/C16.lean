import Kolibrie.Lemmas.SyntaxFuel
import Kolibrie.Lemmas.Lexer
import Kolibrie.Lemmas.ScanTok
import Kolibrie.Lemmas.Arith
/-!
# C16 — the query parser is total and faithful

Property theorems only.  Helper lemmas under `Kolibrie/Lemmas/`: `Syntax`, `SyntaxNested`, `SyntaxFuel` (token-level parser),
`Lexer`, `ScanTok` (the byte-level scanners), `Arith`.
Models: `Kolibrie/Model/Scan.lean` (byte-level transcription of the seven hand-written token scanners),
`Kolibrie/Model/Syntax.lean` (token-level transcription of `parse_group_graph_pattern`, `sparql_group_primary`,
`sparql_triples_statement`, `sparql_filter_*`, `sparql_subquery`, `sparql_select_core` with the nesting guard of
`fixes/C16_nesting_depth_limit.patch`; syntax tree; printer; lexer), `Kolibrie/Model/Arith.lean` (token-level
transcription of the FILTER arithmetic parser).

"Never crashes" is a runtime fact: it is *proved* for the scanners' index arithmetic only (no slice off a char
boundary or out of range, for every character classification and every well-formed byte string) and *observed*
elsewhere by the correspondence run (catch_unwind over mutated inputs, child process for deep nesting).
-/
namespace Kolibrie.Props.C16
open Kolibrie.Syntax

/-! ## acceptance consumes the whole input -/

/-- `parseTok` (the model of `parse_sparql_query` / the SELECT exit of `parse_combined_query`) accepts only when
    the select-core parser consumed every token: for all token lists. -/
theorem accept_total (toks : List Tok) (q : Sel) (h : parseTok toks = some q) :
    parseSel (64 * toks.length + 64) 0 toks = some (q, []) := by
  unfold parseTok parseTokFuel at h
  split at h
  · rename_i q' hq; cases h; exact hq
  · cases h

/-- trailing tokens are never silently dropped -/
theorem trailing_rejected (toks : List Tok) (q : Sel) (t : Tok) (rest : List Tok)
    (h : parseSel (64 * toks.length + 64) 0 toks = some (q, t :: rest)) : parseTok toks = none := by
  unfold parseTok parseTokFuel
  rw [h]

/-! ## structural faithfulness: print, then parse -/

/-- **Print-then-parse is the identity (token level)**: for every syntax tree of the generated fragment — SELECT
    [DISTINCT] (variables | `*`) WHERE, arbitrarily nested groups, UNION with any number of alternatives, GRAPH,
    FILTER (comparisons under arbitrarily nested `&&`, `||`, `!`), sub-selects, GROUP BY / ORDER BY (ASC and DESC) /
    LIMIT — every dot style (`.` after every element, never, or between elements) and every fuel above the stated
    bound, provided the tree is well formed (`wfS`: joins and unions have ≥ 2 members, statements ≥ 1 predicate,
    variables where the grammar wants variables) and passes the nesting guard (`fitsSel`): the token-level parser
    returns exactly the tree and consumes every token.  No bound on size or depth other than the extracted
    nesting limit. -/
theorem parse_print_tokens (q : Sel) (d : Dots) (fuel : Nat)
    (hq : wfS q = true) (hfit : fitsSel 0 q = true) (hf : fuelS q ≤ fuel) :
    parseTokFuel fuel (toksSel d q) = some q := by
  have h := (stmts d fuel).sel q 0 [] hq hfit hf rfl
  simp only [List.append_nil] at h
  unfold parseTokFuel
  rw [h]

example : parseTokFuel 40 [kwd "SELECT", sy "*", kwd "WHERE", sy "{", sy "}"] = some (.mk false [] .unit [] [] none) :=
  parse_print_tokens (.mk false [] .unit [] [] none) .all 40 (by decide) (by decide) (by decide)

/-- the same for a sub-pattern anywhere inside a query: a braced group prints and parses back in any context -/
theorem group_parse_print (p : Pat) (d : Dots) (k fuel : Nat) (rest : List Tok)
    (hw : wfP p = true) (hfit : fitsBraced k p = true) (hf : fuelP p + 3 ≤ fuel) :
    parseBraced fuel k (toksBraced d p ++ rest) = some (p, rest) :=
  (stmts d fuel).braced p k rest hw hfit hf

/-- every token of the printed query is one the lexer reads back verbatim: keywords of the grammar, the punctuation
    and operator symbols, and lexemes that are variables (`?x`), IRIs (`<…>` without spaces), plain string literals
    (`"…"` without escapes), unsigned integers, or prefixed names / identifiers that are not keywords -/
def lexOk (q : Sel) (d : Dots) : Bool := (toksSel d q).all wfTok

/-- **The lexer inverts the printer, whatever the layout**: for every token list of well-formed tokens and every
    separator-complete layout (any mixture of spaces, tabs, CR, LF and `#…` comments between tokens, each separator
    starting with a whitespace character; keywords in upper, lower or alternating case, chosen per token), lexing the
    rendered text yields the tokens. -/
theorem tokens_render_free (l : Layout) (ts : List Tok) (hwf : ∀ t ∈ ts, wfTok t = true) (hl : LayoutOk l) :
    tokens (render l 0 ts) = some ts :=
  tokens_render l ts hwf hl

/-- **The tokens of a printed query do not depend on whitespace, comments or keyword case**, among separator-complete
    layouts. -/
theorem tokens_layout_free (q : Sel) (d : Dots) (l l' : Layout) (hlex : lexOk q d = true)
    (hl : LayoutOk l) (hl' : LayoutOk l') :
    tokens (pp q d l) = tokens (pp q d l') := by
  have hwf : ∀ t ∈ toksSel d q, wfTok t = true := by simpa [lexOk] using hlex
  unfold pp
  rw [tokens_render l _ hwf hl, tokens_render l' _ hwf hl']

/-- **Parsing the text of a printed query yields the same tree** — for every well-formed syntax tree of the
    generated fragment that passes the nesting guard, every dot style and every separator-complete layout:
    `parse (lex (print t layout)) = t`, nesting, element order, terms, filters and modifiers included. -/
theorem parse_print (q : Sel) (d : Dots) (l : Layout)
    (hq : wfS q = true) (hfit : fitsSel 0 q = true) (hlex : lexOk q d = true) (hl : LayoutOk l) :
    (tokens (pp q d l)).bind parseTok = some q := by
  have hwf : ∀ t ∈ toksSel d q, wfTok t = true := by simpa [lexOk] using hlex
  unfold pp
  rw [tokens_render l _ hwf hl]
  simp only [Option.bind_some, parseTok]
  exact parse_print_tokens q d _ hq hfit (fuel_enough d q hq)

/-- a layout with a comment and mixed whitespace in every gap is separator-complete -/
example : LayoutOk ⟨fun i => if i % 2 == 0 then [.sp, .comment "{ ?x } \"".toList, .tab] else [.cr, .nl], fun i => i⟩ := by
  refine ⟨Or.inr (by decide +kernel), fun i _ => ?_⟩
  dsimp only
  split <;> decide +kernel

/- NOTE (what is observed rather than proved): layouts that print punctuation without any separator
   (`{?s ?p ?o}`, `FILTER(…)`, `?o.`) are outside `LayoutOk`; they are exercised by the correspondence run
   (layout codes 6 and 7 of the driver) where the real parser, the model lexer+parser and the source tree must agree.
   So are separators that start with a comment (layout code 8).
-/

example : wfS (.mk true ["?s".toList] (.join (.cons (.bgp "?s".toList [("a".toList, "?o".toList)])
    (.cons (.union (.cons (.graph "?g".toList .unit) (.cons (.sub (.mk false [] .unit ["?s".toList] [("?o".toList, true)] (some 3))) .nil)))
    (.cons (.filter (.not (.and (.cmp "?o".toList "<" "5".toList) (.cmp "?s".toList "!=" "<x>".toList)))) .nil)))) [] [] none) = true
    ∧ fitsSel 0 (.mk true ["?s".toList] (.join (.cons (.bgp "?s".toList [("a".toList, "?o".toList)])
    (.cons (.union (.cons (.graph "?g".toList .unit) (.cons (.sub (.mk false [] .unit ["?s".toList] [("?o".toList, true)] (some 3))) .nil)))
    (.cons (.filter (.not (.and (.cmp "?o".toList "<" "5".toList) (.cmp "?s".toList "!=" "<x>".toList)))) .nil)))) [] [] none) = true := by
  decide +kernel

/-- FILTER expressions of any shape (comparisons under arbitrarily nested `&&`, `||`, `!`) print and parse back to
    the same tree at any position where the nesting guard admits them. -/
theorem filter_parse_print (e : FExpr) (k fuel : Nat) (rest : List Tok)
    (hw : wfF e = true) (hfit : fitsF k e = true) (hf : fuelF e ≤ fuel) (hr : noOpHead rest = true) :
    parseOr fuel k (toksF e ++ rest) = some (e, rest) :=
  parseOr_print e k fuel rest hw hfit hf hr

example : wfF (.or (.cmp [] "=" []) (.not (.cmp [] "<=" []))) = true ∧
    fitsF 3 (.or (.cmp [] "=" []) (.not (.cmp [] "<=" []))) = true := by decide

/-! ## the nesting limit (extracted from the source) -/

/-- **Nesting beyond the limit is a parse error, never unbounded recursion**: a group that opens with more than
    `SPARQL_MAX_NESTING_DEPTH` braces in a row is rejected, whatever follows and with any fuel, however large (the
    guard counter stops the descent). -/
theorem deep_nesting_rejected (n fuel : Nat) (rest : List Tok)
    (h : Kolibrie.Extracted.maxNestingDepth < n) :
    parseBraced fuel 0 (List.replicate n (sy "{") ++ rest) = none := by
  obtain ⟨m, rfl⟩ : ∃ m, n = m + 1 := ⟨n - 1, by omega⟩
  exact deep_braces_rejected m fuel 0 rest (by omega)

example : Kolibrie.Extracted.maxNestingDepth < 20000 := by decide

/-- the guard admits a group entered with any counter below the constant: the empty group parses there (nested groups
    up to the limit are instances of `group_parse_print`) -/
theorem nesting_within_limit (k : Nat) (h : k < Kolibrie.Extracted.maxNestingDepth) (f : Nat) (rest : List Tok) :
    parseBraced (f + 3) k (sy "{" :: sy "}" :: rest) = some (.unit, rest) :=
  braced_items (f + 2) k (sy "}") rest .nil rest (by simp [sy]) (by simp [guardOk, h]) (items_nil (f + 1) (k + 1) rest)

/-! ## the hand-written token scanners (byte level)

For every character classification `cls` (the oracle for Rust's `char::is_alphabetic / is_numeric / is_whitespace`)
and every well-formed byte string `s` (`WF`: lead bytes followed by the announced number of continuation bytes —
implied by UTF-8 validity, i.e. every Rust `&str`): the transcription of each scanner never reaches a slice at a
non-boundary or out-of-range index (`.panic`), never exhausts its loop budget (`.fuel`), returns remaining input and
token on character boundaries inside the input, reports error slices on character boundaries inside the input, and a
successful scan returns a non-empty token (callers' loops advance). -/
section Scanners
open Kolibrie.Scan Kolibrie.Utf8

/-- `sparql_skip_ws` always succeeds, on a character boundary inside the input -/
theorem skip_ws_boundary (cls : CharClass) {s : Bytes} (hw : WF s) :
    ∃ w, skipWs cls s = .ok w 0 0 ∧ w ≤ s.length ∧ isBoundary s w = true :=
  skipWs_boundary cls hw

/-- skipping whitespace and comments twice skips nothing more -/
theorem skip_ws_idempotent (cls : CharClass) {s : Bytes} (hw : WF s) {w x y : Nat}
    (h : skipWs cls s = .ok w x y) : skipWsAt cls s w = .ok w 0 0 :=
  skipWs_idempotent cls hw h

/-- `sparql_variable`: no slice off a character boundary or out of range, and the loop budget is never exhausted -/
theorem scanVar_total (cls : CharClass) {s : Bytes} (hw : WF s) : scanVar cls s ≠ .panic ∧ scanVar cls s ≠ .fuel :=
  ⟨good_no_panic (scanVar_good cls hw), good_no_fuel (scanVar_good cls hw)⟩

/-- `sparql_variable`: remaining input and token start and end on character boundaries inside the input -/
theorem scanVar_boundary (cls : CharClass) {s : Bytes} (hw : WF s) {n a l : Nat} (h : scanVar cls s = .ok n a l) :
    n ≤ s.length ∧ isBoundary s n = true ∧ isBoundary s a = true ∧ isBoundary s (a + l) = true ∧ a + l = n :=
  good_boundary (scanVar_good cls hw) h

/-- `sparql_variable`: the error's input slice lies inside the input on character boundaries -/
theorem scanVar_err_boundary (cls : CharClass) {s : Bytes} (hw : WF s) {k : String} {off len : Nat}
    (h : scanVar cls s = .err k off len) :
    off + len ≤ s.length ∧ isBoundary s off = true ∧ isBoundary s (off + len) = true :=
  good_err_boundary (scanVar_good cls hw) h

/-- `sparql_variable`: a successful scan returns a non-empty token -/
theorem scanVar_progress (cls : CharClass) {s : Bytes} (hw : WF s) {n a l : Nat} (h : scanVar cls s = .ok n a l) :
    0 < l :=
  good_progress (scanVar_good cls hw) h

/-- `sparql_iri`: no slice off a character boundary or out of range, and the loop budget is never exhausted -/
theorem scanIri_total (cls : CharClass) {s : Bytes} (hw : WF s) : scanIri cls s ≠ .panic ∧ scanIri cls s ≠ .fuel :=
  ⟨good_no_panic (scanIri_good cls hw), good_no_fuel (scanIri_good cls hw)⟩

/-- `sparql_iri`: remaining input and token start and end on character boundaries inside the input -/
theorem scanIri_boundary (cls : CharClass) {s : Bytes} (hw : WF s) {n a l : Nat} (h : scanIri cls s = .ok n a l) :
    n ≤ s.length ∧ isBoundary s n = true ∧ isBoundary s a = true ∧ isBoundary s (a + l) = true ∧ a + l = n :=
  good_boundary (scanIri_good cls hw) h

/-- `sparql_iri`: the error's input slice lies inside the input on character boundaries -/
theorem scanIri_err_boundary (cls : CharClass) {s : Bytes} (hw : WF s) {k : String} {off len : Nat}
    (h : scanIri cls s = .err k off len) :
    off + len ≤ s.length ∧ isBoundary s off = true ∧ isBoundary s (off + len) = true :=
  good_err_boundary (scanIri_good cls hw) h

/-- `sparql_iri`: a successful scan returns a non-empty token -/
theorem scanIri_progress (cls : CharClass) {s : Bytes} (hw : WF s) {n a l : Nat} (h : scanIri cls s = .ok n a l) :
    0 < l :=
  good_progress (scanIri_good cls hw) h

/-- `sparql_blank_node`: no slice off a character boundary or out of range, and the loop budget is never exhausted -/
theorem scanBnode_total (cls : CharClass) {s : Bytes} (hw : WF s) : scanBnode cls s ≠ .panic ∧ scanBnode cls s ≠ .fuel :=
  ⟨good_no_panic (scanBnode_good cls hw), good_no_fuel (scanBnode_good cls hw)⟩

/-- `sparql_blank_node`: remaining input and token start and end on character boundaries inside the input -/
theorem scanBnode_boundary (cls : CharClass) {s : Bytes} (hw : WF s) {n a l : Nat} (h : scanBnode cls s = .ok n a l) :
    n ≤ s.length ∧ isBoundary s n = true ∧ isBoundary s a = true ∧ isBoundary s (a + l) = true ∧ a + l = n :=
  good_boundary (scanBnode_good cls hw) h

/-- `sparql_blank_node`: the error's input slice lies inside the input on character boundaries -/
theorem scanBnode_err_boundary (cls : CharClass) {s : Bytes} (hw : WF s) {k : String} {off len : Nat}
    (h : scanBnode cls s = .err k off len) :
    off + len ≤ s.length ∧ isBoundary s off = true ∧ isBoundary s (off + len) = true :=
  good_err_boundary (scanBnode_good cls hw) h

/-- `sparql_blank_node`: a successful scan returns a non-empty token -/
theorem scanBnode_progress (cls : CharClass) {s : Bytes} (hw : WF s) {n a l : Nat} (h : scanBnode cls s = .ok n a l) :
    0 < l :=
  good_progress (scanBnode_good cls hw) h

/-- `sparql_prefixed_name`: no slice off a character boundary or out of range, and the loop budget is never exhausted -/
theorem scanPname_total (cls : CharClass) {s : Bytes} (hw : WF s) : scanPname cls s ≠ .panic ∧ scanPname cls s ≠ .fuel :=
  ⟨good_no_panic (scanPname_good cls hw), good_no_fuel (scanPname_good cls hw)⟩

/-- `sparql_prefixed_name`: remaining input and token start and end on character boundaries inside the input -/
theorem scanPname_boundary (cls : CharClass) {s : Bytes} (hw : WF s) {n a l : Nat} (h : scanPname cls s = .ok n a l) :
    n ≤ s.length ∧ isBoundary s n = true ∧ isBoundary s a = true ∧ isBoundary s (a + l) = true ∧ a + l = n :=
  good_boundary (scanPname_good cls hw) h

/-- `sparql_prefixed_name`: the error's input slice lies inside the input on character boundaries -/
theorem scanPname_err_boundary (cls : CharClass) {s : Bytes} (hw : WF s) {k : String} {off len : Nat}
    (h : scanPname cls s = .err k off len) :
    off + len ≤ s.length ∧ isBoundary s off = true ∧ isBoundary s (off + len) = true :=
  good_err_boundary (scanPname_good cls hw) h

/-- `sparql_prefixed_name`: a successful scan returns a non-empty token -/
theorem scanPname_progress (cls : CharClass) {s : Bytes} (hw : WF s) {n a l : Nat} (h : scanPname cls s = .ok n a l) :
    0 < l :=
  good_progress (scanPname_good cls hw) h

/-- `sparql_numeric_literal`: no slice off a character boundary or out of range, and the loop budget is never exhausted -/
theorem scanNum_total (cls : CharClass) {s : Bytes} (hw : WF s) : scanNum cls s ≠ .panic ∧ scanNum cls s ≠ .fuel :=
  ⟨good_no_panic (scanNum_good cls hw), good_no_fuel (scanNum_good cls hw)⟩

/-- `sparql_numeric_literal`: remaining input and token start and end on character boundaries inside the input -/
theorem scanNum_boundary (cls : CharClass) {s : Bytes} (hw : WF s) {n a l : Nat} (h : scanNum cls s = .ok n a l) :
    n ≤ s.length ∧ isBoundary s n = true ∧ isBoundary s a = true ∧ isBoundary s (a + l) = true ∧ a + l = n :=
  good_boundary (scanNum_good cls hw) h

/-- `sparql_numeric_literal`: the error's input slice lies inside the input on character boundaries -/
theorem scanNum_err_boundary (cls : CharClass) {s : Bytes} (hw : WF s) {k : String} {off len : Nat}
    (h : scanNum cls s = .err k off len) :
    off + len ≤ s.length ∧ isBoundary s off = true ∧ isBoundary s (off + len) = true :=
  good_err_boundary (scanNum_good cls hw) h

/-- `sparql_numeric_literal`: a successful scan returns a non-empty token -/
theorem scanNum_progress (cls : CharClass) {s : Bytes} (hw : WF s) {n a l : Nat} (h : scanNum cls s = .ok n a l) :
    0 < l :=
  good_progress (scanNum_good cls hw) h

/-- `sparql_quoted_literal`: no slice off a character boundary or out of range, and the loop budget is never exhausted -/
theorem scanLit_total (cls : CharClass) {s : Bytes} (hw : WF s) : scanLit cls s ≠ .panic ∧ scanLit cls s ≠ .fuel :=
  ⟨good_no_panic (scanLit_good cls hw), good_no_fuel (scanLit_good cls hw)⟩

/-- `sparql_quoted_literal`: remaining input and token start and end on character boundaries inside the input -/
theorem scanLit_boundary (cls : CharClass) {s : Bytes} (hw : WF s) {n a l : Nat} (h : scanLit cls s = .ok n a l) :
    n ≤ s.length ∧ isBoundary s n = true ∧ isBoundary s a = true ∧ isBoundary s (a + l) = true ∧ a + l = n :=
  good_boundary (scanLit_good cls hw) h

/-- `sparql_quoted_literal`: the error's input slice lies inside the input on character boundaries -/
theorem scanLit_err_boundary (cls : CharClass) {s : Bytes} (hw : WF s) {k : String} {off len : Nat}
    (h : scanLit cls s = .err k off len) :
    off + len ≤ s.length ∧ isBoundary s off = true ∧ isBoundary s (off + len) = true :=
  good_err_boundary (scanLit_good cls hw) h

/-- `sparql_quoted_literal`: a successful scan returns a non-empty token -/
theorem scanLit_progress (cls : CharClass) {s : Bytes} (hw : WF s) {n a l : Nat} (h : scanLit cls s = .ok n a l) :
    0 < l :=
  good_progress (scanLit_good cls hw) h

/-- the hypothesis is satisfiable by multi-byte text (`<é語>`) -/
example : WF [0x3C, 0xC3, 0xA9, 0xE8, 0xAA, 0x9E, 0x3E] := by
  unfold WF; decide +kernel

end Scanners

/-! ## operator table (extracted from `sparql_filter_operator`) -/

/-- first match = longest match: whenever one operator of the extracted list is a proper prefix of another, the
    longer one is tried first -/
theorem operators_longest_match :
    ∀ i j : Fin Kolibrie.Extracted.filterOperators.length, i.val < j.val →
      ¬ (Kolibrie.Extracted.filterOperators[i.val]'i.isLt).toList <+: (Kolibrie.Extracted.filterOperators[j.val]'j.isLt).toList := by
  decide +kernel

/-! ## FILTER arithmetic (`sparql_filter_operand` / `_product` / `_arithmetic`, model `Model/Arith.lean`) -/

section Arithmetic
open Kolibrie.Arith

/-- a chain `x0 - x1 - … - xn` of ANY length, over any operands, groups to the left (`((x0 - x1) - x2) - …`) -/
theorem arith_chain_groups_left (x0 : String) (xs : List String) :
    parseA (Tok.atom x0 :: chainToks xs) = some (xs.foldl (fun a x => .sub a (.opnd x)) (.opnd x0)) := by
  have h := roundtrip false (xs.foldl (fun a x => .sub a (.opnd x)) (.opnd x0))
  rw [printA, printTop_chain] at h
  unfold parseA
  rw [show Tok.atom x0 :: chainToks xs = printTop false (.opnd x0) ++ chainToks xs from rfl, h]

/-- **the arithmetic parser inverts the printer**: every expression tree, of any size and shape, printed with minimal
    or with redundant parentheses for the left-associative two-level grammar, parses back to exactly that tree (so
    precedence, left grouping of chains and parenthesised right operands are all as the grammar says) -/
theorem arith_parse_print (extra : Bool) (e : AExpr) : parseA (printA extra e) = some e := by
  unfold parseA
  rw [roundtrip extra e]

/-- every expression with two operators over any three operands, in both groupings, printed with minimal or with
    redundant parentheses, parses back to itself (so `a - b - c` and `a - (b - c)` are told apart, and
    precedence between the two levels is respected) -/
theorem arith_two_ops_roundtrip (extra : Bool) (a b c : String) (o1 o2 : AExpr → AExpr → AExpr)
    (h1 : o1 = .add ∨ o1 = .sub ∨ o1 = .mul ∨ o1 = .div) (h2 : o2 = .add ∨ o2 = .sub ∨ o2 = .mul ∨ o2 = .div) :
    parseA (printA extra (o2 (o1 (.opnd a) (.opnd b)) (.opnd c))) = some (o2 (o1 (.opnd a) (.opnd b)) (.opnd c)) ∧
    parseA (printA extra (o1 (.opnd a) (o2 (.opnd b) (.opnd c)))) = some (o1 (.opnd a) (o2 (.opnd b) (.opnd c))) :=
  ⟨arith_parse_print extra _, arith_parse_print extra _⟩

/-- the grouping matters for the value: `10 - 4 - 3` is 3 under the parser's tree, not 9 -/
example (v : String → Int) (h10 : v "10" = 10) (h4 : v "4" = 4) (h3 : v "3" = 3) :
    (parseA [.atom "10", .op '-', .atom "4", .op '-', .atom "3"]).map (eval v) = some 3 := by
  have : parseA [.atom "10", .op '-', .atom "4", .op '-', .atom "3"] =
      some (.sub (.sub (.opnd "10") (.opnd "4")) (.opnd "3")) := rfl
  simp [this, eval, h10, h4, h3]

end Arithmetic

end Kolibrie.Props.C16
