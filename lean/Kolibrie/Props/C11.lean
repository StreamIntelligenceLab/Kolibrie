import Kolibrie.Lemmas.RspMulti
/-
C11 — multi-window results are joins of what each window itself reported.

Model: `Kolibrie.Rsp.mrunE` — window processors (`fireW`), the single-thread coordinator
(`process_single_thread_window_results` = `poll`, with `extend` and the policy's clear/keep), `emit_results`
(`joinAll` = `join_window_results`, `naturalJoin`, static join over `static_db`).
`cfg.shared = true` is the code that exists (RSPEngine::new: ONE r2r store, every window plan scans its default graph);
`cfg.shared = false` gives each window its own store — the architecture the property describes.
`Sub a r`: solution `a` is `r` restricted to `a`'s variables.
-/
namespace Kolibrie.Props.C11
open Kolibrie.Rsp

/-- Natural join of any number of window result sets (`join_window_results`): every joined row extends, for every
    operand `i`, one row of that operand. -/
theorem natural_join_proj (rs : List (List Row)) (r : Row) (h : r ∈ joinAll rs) :
    ∀ (i : Nat) (hi : i < rs.length), ∃ a, a ∈ rs[i] ∧ Sub a r :=
  fun i hi => joinAll_proj h rs[i] (List.getElem_mem hi)

/-- … and the two sides of one `natural_join` are compatible on their shared variables: both are restrictions of
    the merged row. -/
theorem natural_join_compat (l s : List Row) (r : Row) (h : r ∈ naturalJoin l s) :
    ∃ a, a ∈ l ∧ ∃ b, b ∈ s ∧ Sub a r ∧ Sub b r ∧ ∀ k va vb, lookup a k = some va → lookup b k = some vb → va = vb := by
  obtain ⟨a, ha, b, hb, s0, s1⟩ := naturalJoin_proj h
  refine ⟨a, ha, b, hb, s0, s1, ?_⟩
  intro k va vb h1 h2
  have e1 := s0 k va h1
  have e2 := s1 k vb h2
  rw [e1] at e2; exact Option.some.inj e2

example : naturalJoin [[(0, 1), (1, 2)], [(0, 5), (1, 6)]] [[(1, 2), (2, 9)], [(1, 7), (2, 8)]] =
    [[(0, 1), (1, 2), (2, 9)]] := by decide +kernel

/-- Static data is isolated, in the code that exists and in the per-window model alike (any `cfg`):
    (1) when there is a static plan, every emitted row extends an answer of the static plan over `static_db` only;
    (2) whatever the static data, every triple ever held by a window store is an item of some stream (window stores
        never contain static triples that did not also arrive on a stream). -/
theorem static_isolated (cfg : MCfg) (evs : List MEv) :
    (cfg.staticPlan.isEmpty = false → ∀ e, e ∈ mrunE cfg evs → ∀ r, r ∈ e.rows →
        ∃ b, b ∈ evalBGP (dedup cfg.staticData) cfg.staticPlan ∧ Sub b r) ∧
    (∀ s, s ∈ (mstateAfter cfg evs).stores → ∀ t, t ∈ s → ∃ w c, c ∈ reported w evs ∧ t ∈ c) := by
  constructor
  · intro hs e he r hr
    rw [mrunFrom_rows evs _ e he] at hr
    exact (emitRows_proj hr).2 hs
  · intro s hs t ht
    have h0 : StoresFromStreams evs (MSt.init cfg.plans.length) := by
      intro s hs t ht
      simp only [MSt.init, List.mem_replicate] at hs
      rw [hs.2] at ht; simp at ht
    obtain ⟨w, c, hc, htc⟩ := storesFromStreams_run (cfg := cfg) evs evs (fun _ h => h) h0 s hs t ht
    exact ⟨w, c, mem_reported.mpr hc, htc⟩

/-- non-vacuity of `static_isolated`: a static plan `?v0 14 ?v1` joined with two windows; the static triple `7 10 5`
    (a window predicate!) never reaches a block -/
example : mrun ⟨[[⟨.var 0, .const 10, .const 5⟩], [⟨.var 1, .const 11, .const 5⟩]],
      [⟨.var 0, .const 14, .var 1⟩], [⟨1, 14, 3⟩, ⟨7, 10, 5⟩], .wait, true⟩
    [.fire 0 [⟨1, 10, 5⟩], .fire 1 [⟨3, 11, 5⟩], .poll] = [[[(0, 1), (1, 3)]]] := by decide +kernel

/-- With per-window stores the property holds for every event sequence (all pairs of streams × window parameters ×
    patterns × policies × static data): every emission joined one entry per window (`lm` has as many entries as there
    are windows, with distinct window indices), and every emitted row extends, for each of these windows, an answer of
    that window's block over a content this very window reported, and an answer of the static plan over the static
    data. -/
theorem blocks_isolated (cfg : MCfg) (hs : cfg.shared = false) (evs : List MEv) :
    ∀ e, e ∈ mrunE cfg evs →
      e.lm.length = cfg.plans.length ∧ (e.lm.map (·.1)).Nodup ∧
      ∀ r, r ∈ e.rows →
        (∀ ent, ent ∈ e.lm → ∃ c, c ∈ reported ent.1 evs ∧
            ∃ a, a ∈ evalBGP (dedup c) (cfg.plans.getD ent.1 []) ∧ Sub a r) ∧
        (cfg.staticPlan.isEmpty = false → ∃ b, b ∈ evalBGP (dedup cfg.staticData) cfg.staticPlan ∧ Sub b r) :=
  fun e he =>
    let ⟨h1, h2, h3, _⟩ := mrunFrom_iso hs evs evs _ (fun _ h => h) (isoInv_init cfg evs _) e he
    ⟨h1, h2, h3⟩

/-- The property's sentence verbatim, with per-window stores: for every event sequence (window indices below the number
    of windows), every emitted solution `r` and EVERY window `w`: `r` extends an answer of window `w`'s block over a
    content that this very window reported.  (Pigeonhole on `blocks_isolated`: as many distinct in-range entries as
    there are windows.) -/
theorem blocks_isolated_all (cfg : MCfg) (hs : cfg.shared = false) (evs : List MEv) (hwf : WellFormed cfg evs = true) :
    ∀ e, e ∈ mrunE cfg evs → ∀ r, r ∈ e.rows → ∀ w, w < cfg.plans.length →
      ∃ c, c ∈ reported w evs ∧ ∃ a, a ∈ evalBGP (dedup c) (cfg.plans.getD w []) ∧ Sub a r := by
  intro e he r hr w hw
  obtain ⟨hlen, hnd, hrows, hfired⟩ := mrunFrom_iso hs evs evs _ (fun _ h => h) (isoInv_init cfg evs _) e he
  have hmem : w ∈ e.lm.map (·.1) :=
    mem_of_nodup_full hnd (fun k hk => lt_of_wellFormed hwf (hfired k hk)) ((List.length_map _).trans hlen) hw
  obtain ⟨ent, hent, hw'⟩ := List.mem_map.mp hmem
  have := (hrows r hr).1 ent hent
  rwa [hw'] at this

/-- witness configuration: two windows over two streams whose items share the class `5`; blocks `?v0 10 5` / `?v1 10 5` -/
def wCfg (shared : Bool) : MCfg :=
  ⟨[[⟨.var 0, .const 10, .const 5⟩], [⟨.var 1, .const 10, .const 5⟩]], [], [], .wait, shared⟩
/-- stream A reports item 1, stream B reports item 3, then the coordinator runs -/
def wEvs : List MEv := [.fire 0 [⟨1, 10, 5⟩], .fire 1 [⟨3, 10, 5⟩], .poll]

example : WellFormed (wCfg false) wEvs = true := by decide +kernel

/-- The code that exists (one shared store) violates the property: window B's block binds `?v1` to item 1, which only
    window A reported.  Evaluated witness; replayed on the engine as corpus/C11/shared_class.case. -/
theorem shared_store_leak : ∃ (cfg : MCfg) (evs : List MEv) (r : Row), cfg.shared = true ∧
    r ∈ (mrun cfg evs).flatten ∧ blockOK (cfg.plans.getD 1 []) (reported 1 evs) r = false :=
  ⟨wCfg true, wEvs, [(0, 1), (1, 1)], rfl, by decide +kernel, by decide +kernel⟩

/-- the same events with per-window stores emit only the legitimate row -/
example : mrun (wCfg false) wEvs = [[[(0, 1), (1, 3)]]] := by decide +kernel
example : mrun (wCfg true) wEvs = [[[(0, 1), (1, 1)], [(0, 1), (1, 3)]]] := by decide +kernel

/- FULL: ∀ cfg evs, mrunE (cfg.withShared true) evs = mrunE (cfg.withShared false) evs, hence `blocks_isolated` for the
   code that exists — false (`shared_store_leak`).  Missing: event sequences in which some window reports a triple that
   is compatible with a pattern of another window's block.  `VocabDisjoint` is the forced, decidable hypothesis (driver
   trigger `windows_share_matching_vocabulary`); `WellFormed` only says window indices are below the number of windows. -/
/-- PARTIAL: when pattern vocabularies are disjoint across the streams, the shared store is unobservable: the code that
    exists emits exactly what the per-window-store engine emits (same `last_materialized`, same rows, same order). -/
theorem shared_eq_isolated_partial (cfg : MCfg) (evs : List MEv)
    (hwf : WellFormed cfg evs = true) (hvd : VocabDisjoint cfg evs = true) :
    mrunE (cfg.withShared true) evs = mrunE (cfg.withShared false) evs :=
  mrunFrom_sim evs (sim_init cfg) hwf hvd

/-- … so under that hypothesis the property holds of the code that exists -/
theorem blocks_isolated_partial (cfg : MCfg) (evs : List MEv)
    (hwf : WellFormed cfg evs = true) (hvd : VocabDisjoint cfg evs = true) :
    ∀ e, e ∈ mrunE (cfg.withShared true) evs →
      ∀ r, r ∈ e.rows → ∀ ent, ent ∈ e.lm → ∃ c, c ∈ reported ent.1 evs ∧
        ∃ a, a ∈ evalBGP (dedup c) (cfg.plans.getD ent.1 []) ∧ Sub a r := by
  intro e he r hr ent hent
  rw [shared_eq_isolated_partial cfg evs hwf hvd] at he
  exact ((blocks_isolated (cfg.withShared false) rfl evs e he).2.2 r hr).1 ent hent

/-- non-vacuity: disjoint vocabularies (predicates 10 / 11), both windows fire, a row is emitted -/
def dCfg : MCfg := ⟨[[⟨.var 0, .const 10, .const 5⟩], [⟨.var 1, .const 11, .const 5⟩]], [], [], .wait, true⟩
def dEvs : List MEv := [.fire 0 [⟨1, 10, 5⟩], .fire 1 [⟨3, 11, 5⟩], .poll]
example : WellFormed dCfg dEvs = true ∧ VocabDisjoint dCfg dEvs = true ∧
    mrun (dCfg.withShared true) dEvs = [[[(0, 1), (1, 3)]]] := by decide +kernel
example : VocabDisjoint (wCfg true) wEvs = false := by decide +kernel

end Kolibrie.Props.C11
