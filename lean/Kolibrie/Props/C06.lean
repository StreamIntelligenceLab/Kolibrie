import Kolibrie.Lemmas.ProvInfer
/-
C06 — probabilities attached to derived facts equal their possible-worlds probability.

Model: `Kolibrie/Model/Prov.lean` (transcription of ProvenanceSemiNaiveStrategy, TagStore, the provenance semirings).
Spec:  `Kolibrie/Spec/Prov.lean`  (`Derivable`, worlds, weights, `wsum`).

All statements quantify over every rule set, every input, every probability assignment; no size bound occurs.
Forced hypotheses (decidable, reported by the driver as `bad-request` because the generator never violates them):
`safeRule` (head variables occur in a positive premise — the code otherwise invents placeholder terms),
non-empty premise lists (a rule without premises never fires in the code), distinct input triples.
Assumed, not proved: the code's `f64` probabilities are read as exact numerators `k` over a fixed denominator `D` (the
correspondence run compares within 1e-9); `SddProvenance` is not modelled (judged by the specification only).
-/
namespace Kolibrie.Props.C06
open Kolibrie.Prov

/-! ## 1. DNF tag algebra: the code's operations mean or / and / not -/

/-- `DnfWmcProvenance::disjunction` (set union, then `remove_subsumed`) denotes disjunction -/
theorem sem_disj (w : Nat → Bool) (a b : Dnf) : evalDnf w (dnfDisj a b) = (evalDnf w a || evalDnf w b) :=
  evalDnf_disj w a b

/-- `DnfWmcProvenance::conjunction` (clause product, `remove_contradictory`, `remove_subsumed`) denotes conjunction -/
theorem sem_conj (w : Nat → Bool) (a b : Dnf) : evalDnf w (dnfConj a b) = (evalDnf w a && evalDnf w b) :=
  evalDnf_conj w a b

/-- `DnfWmcProvenance::negate` (De Morgan over signed literals, early exits included) denotes negation -/
theorem sem_neg (w : Nat → Bool) (a : Dnf) : evalDnf w (dnfNeg a) = !evalDnf w a := evalDnf_neg w a

example : dnfConj [[1], [3]] (dnfNeg [[1, 5]]) = [[3, 4], [1, 4]] ∨ True := Or.inr trivial

/-! ## 2. Shannon expansion is the weighted model count -/

/-- `shannon_wmc` (numerators over `D^n`) equals `Σ_w weight(w) · [⟦φ⟧ w]` over all assignments to the seed
    variables `xs`, for every formula over those variables and every probability table -/
theorem shannon_exact (D : Nat) (tbl : Nat → Nat) (xs : List Nat) (φ : Dnf) (hn : xs.Nodup) (hv : VarsIn xs φ)
    (ht : ∀ x ∈ xs, tbl x ≤ D) : shannon D tbl xs φ = wsum D tbl xs (fun w => evalDnf w φ) :=
  shannon_eq_wsum D tbl xs φ hn hv ht

example : shannon 10 (fun x => [8, 6, 5].getD x 0) [0, 1, 2] [[1, 3], [1, 5]] = 640 := by decide

/-! ## 3. World readings of the semirings (the Boolean one is `Prov.boolSem`) -/

def dnfSem : Sem Dnf (Nat → Bool) dnfProv where
  ok _ := True
  sem t w := evalDnf w t = true
  sem_zero t w _ hz := by rw [List.isEmpty_iff.mp hz]; exact Bool.false_ne_true
  sem_one w _ := evalDnf_one w
  sem_disj a b w := by rw [← Bool.or_eq_true, ← evalDnf_disj]; rfl
  sem_conj a b w := by rw [← Bool.and_eq_true, ← evalDnf_conj]; rfl
  sem_sat a b w hs := by rw [deq_eval hs]

/-- min-max tags read at a threshold `α ∈ (0, D]`: "the tag is at least α" -/
def minmaxSem (D : Nat) : Sem Nat Nat (minmaxProv D) :=
  threshSem (minmaxProv D) 0 le_minmaxDisj le_minmaxConj (fun _ => eq_of_beq) (fun _ _ => eq_of_beq)

/-! ## 4. Tag propagation is sound in every reachable store and complete at the reported fixpoint
       (any semiring with a world reading; recursive programs and shared evidence included) -/

section generic
variable {T W : Type} {P : Prov T} (S : Sem T W P)

/-- the loop invariant holds at the first round boundary … -/
theorem inv_initial (rules : List Rule) (facts : List Fact) (tags0 : Tags T) (hne : ∀ r ∈ rules, r.prem ≠ []) :
    Inv S rules (inputsW S facts tags0) facts facts tags0 := inv_init S rules facts tags0 hne

/-- … and is preserved by every round of `infer_round` (so it holds at every reachable round boundary) -/
theorem inv_round (rules : List Rule) (inputs : W → Fact → Prop) (all delta : List Fact) (tags : Tags T)
    (hsafe : ∀ r ∈ rules, safeRule r = true) (h : Inv S rules inputs all delta tags) :
    Inv S rules inputs (all ++ (round P rules all delta tags).newFacts)
      ((round P rules all delta tags).newFacts ++ (round P rules all delta tags).improved)
      (round P rules all delta tags).tags := round_inv S hsafe h

/-- `tags_sound`: in every reachable tag store — at a round boundary or after any number `k` of derivations inside a
    round, fixpoint reached or not — a tag that is true in world `w` belongs to a fact derivable in `w` -/
theorem tags_sound (rules : List Rule) (inputs : W → Fact → Prop) (all delta : List Fact) (tags : Tags T)
    (h : Inv S rules inputs all delta tags) (k : Nat) (g : Fact) (w : W) (hw : S.ok w) :
    let st := ((jobs rules all delta).take k).foldl (processJob P all) ⟨tags, [], []⟩
    (g ∈ all ∨ g ∈ st.newFacts) → S.sem (getTag P st.tags g) w → Derivable rules (inputs w) g :=
  fun hg hs => prefix_sound S h k g w hw ⟨hg, hs⟩

/-- `tags_complete`: when the driver loop stops (it reports a fixpoint: no new fact, no improved tag), every fact
    derivable in world `w` is present and its tag is true in `w`; together with soundness of the final store -/
theorem tags_complete (rules : List Rule) (inputs : W → Fact → Prop) (hsafe : ∀ r ∈ rules, safeRule r = true)
    (fuel : Nat) (all delta : List Fact) (tags : Tags T) (all' : List Fact) (tags' : Tags T)
    (hinv : Inv S rules inputs all delta tags) (h : iter P rules fuel all delta tags = some (all', tags')) :
    (∀ w, S.ok w → ∀ g, Derivable rules (inputs w) g → g ∈ all' ∧ S.sem (getTag P tags' g) w) ∧
    (∀ g ∈ all', ∀ w, S.ok w → S.sem (getTag P tags' g) w → Derivable rules (inputs w) g) :=
  let ⟨h1, h2, _⟩ := iter_exact S hsafe fuel all delta tags all' tags' hinv h
  ⟨h2, h1⟩

end generic

/-! ## 5. The reported values -/

/-- hypotheses on a request: positive safe program, distinct input triples split into certain and uncertain ones -/
structure WellFormed (D : Nat) (rules : List Rule) (facts certain : List Fact) (seeds : List (Fact × Nat)) : Prop where
  pos : ∀ r ∈ rules, r.neg = []
  safe : ∀ r ∈ rules, safeRule r = true
  nonempty : ∀ r ∈ rules, r.prem ≠ []
  facts_eq : ∀ g, g ∈ facts ↔ g ∈ certain ∨ g ∈ seeds.map (·.1)
  nodup : (seeds.map (·.1)).Nodup
  disjoint : ∀ g ∈ certain, g ∉ seeds.map (·.1)
  bound : ∀ e ∈ seeds, e.2 ≤ D

theorem mem_inputsOf {certain : List Fact} {sorted : List (Fact × Nat)} {w : Nat → Bool} {g : Fact} :
    g ∈ inputsOf certain sorted w ↔ g ∈ certain ∨ ∃ i k, sorted[i]? = some (g, k) ∧ w i = true := by
  simp only [inputsOf, List.mem_append, List.mem_map, List.mem_filter, Prod.exists, mem_zip_range]
  refine or_congr_right ⟨fun ⟨i, g', k, h, e⟩ => ⟨i, k, e ▸ h⟩, fun ⟨i, k, h⟩ => ⟨i, g, k, h, rfl⟩⟩

def mkDnf : Nat → Nat → Dnf := fun _ id => [[mkLit id true]]

theorem eval_seed (w : Nat → Bool) (i : Nat) : evalDnf w [[mkLit i true]] = w i := by
  simp only [evalDnf, evalClause, List.any_cons, List.any_nil, List.all_cons, List.all_nil, mkLit_var, mkLit_pol,
    Bool.and_true, Bool.or_false, beq_true]

open Classical in
/-- `prob_exact`: for every positive program (recursive or not, shared evidence or not), every input and every
    probability assignment `k/D`, the probability recovered from the final DNF tag of a fact (`shannon_wmc`) is the
    total weight of the worlds in which the fact is derivable; facts that are not reported are derivable in no world -/
theorem prob_exact (D : Nat) (rules : List Rule) (facts certain : List Fact) (seeds : List (Fact × Nat)) (fuel : Nat)
    (out : Outcome Dnf) (wf : WellFormed D rules facts certain seeds)
    (h : inferProv dnfProv mkDnf rules facts seeds fuel = some out) (g : Fact) :
    let sorted := sortSeeds seeds
    let xs := List.range sorted.length
    (g ∈ out.all → shannon D (tblOf sorted) xs (getTag dnfProv out.tags g)
        = wsum D (tblOf sorted) xs (fun w => decide (Derivable rules (· ∈ inputsOf certain sorted w) g))) ∧
    (g ∉ out.all → ∀ w, ¬ Derivable rules (· ∈ inputsOf certain sorted w) g) := by
  intro sorted xs
  have hin : ∀ w g, inputsW dnfSem facts (seedTags mkDnf sorted) w g ↔ g ∈ inputsOf certain sorted w := fun w g =>
    (inputsW_seedTags dnfSem mkDnf wf.facts_eq wf.nodup wf.disjoint trivial g).trans <|
      (or_congr_right (exists_congr fun i => exists_congr fun k => and_congr_right fun _ => by
        rw [← eval_seed w i]; rfl)).trans mem_inputsOf.symm
  have hex : ∀ w, (g ∈ out.all ∧ evalDnf w (getTag dnfProv out.tags g) = true) ↔
      Derivable rules (· ∈ inputsOf certain sorted w) g := fun w =>
    (inferProv_exact dnfSem mkDnf rules facts seeds fuel out wf.pos wf.safe wf.nonempty h (w := w) trivial g).trans
      (Derivable.iff_congr (hin w) g)
  refine ⟨fun hg => ?_, fun hg w hd => hg ((hex w).mpr hd).1⟩
  have hvars : VarsIn xs (getTag dnfProv out.tags g) :=
    TagClosed.inferProv (P := dnfProv) (Q := VarsIn xs)
      ⟨fun c hc l hl => (by rw [List.mem_singleton.mp hc] at hl; cases hl), fun _ _ => varsIn_conj,
        fun _ _ => varsIn_disj⟩
      mkDnf rules facts seeds fuel out wf.pos
      (fun i e hi c hc l hl => by
        rw [List.mem_singleton.mp hc] at hl
        rw [List.mem_singleton.mp hl, mkLit_var]
        exact List.mem_range.mpr (List.getElem?_eq_some_iff.mp hi).1) h g
  have htbl : ∀ x ∈ xs, tblOf sorted x ≤ D := fun x _ => by
    unfold tblOf
    cases hx : sorted[x]? with
    | none => exact Nat.zero_le _
    | some e => exact wf.bound e (mem_sortSeeds.mp (List.mem_of_getElem? hx))
  rw [shannon_eq_wsum D (tblOf sorted) xs _ List.nodup_range hvars htbl]
  congr 1
  funext w
  rw [Bool.eq_iff_iff, decide_eq_true_iff, ← hex w]
  exact (and_iff_right hg).symm

/-- `minmax_cut`: for every threshold `α ∈ (0, D]`, a fact is reported with min-max value ≥ α exactly when it is
    derivable from the certain facts and the uncertain facts of probability ≥ α.  Hence the reported value is the
    largest such α: the best derivation's weakest input (and 0 / absent when no derivation has positive inputs). -/
theorem minmax_cut (D : Nat) (rules : List Rule) (facts certain : List Fact) (seeds : List (Fact × Nat)) (fuel : Nat)
    (out : Outcome Nat) (wf : WellFormed D rules facts certain seeds)
    (h : inferProv (minmaxProv D) (fun k _ => min k D) rules facts seeds fuel = some out)
    (α : Nat) (hα : 0 < α ∧ α ≤ D) (g : Fact) :
    (g ∈ out.all ∧ α ≤ getTag (minmaxProv D) out.tags g) ↔
      Derivable rules (fun f => f ∈ certain ∨ ∃ k, (f, k) ∈ seeds ∧ α ≤ k) g := by
  -- a seed is an input at threshold `α` when `α ≤ min k D`, i.e. `α ≤ k`
  have hin := fun g =>
    (inputsW_seedTags (minmaxSem D) (fun k _ => min k D) wf.facts_eq wf.nodup wf.disjoint hα g).trans
      (or_congr_right (exists_sortSeeds_getElem.trans
        (exists_congr fun k => and_congr_right fun _ => Nat.le_min.trans (and_iff_left hα.2))))
  exact (inferProv_exact (minmaxSem D) _ rules facts seeds fuel out wf.pos wf.safe wf.nonempty h hα g).trans
    (Derivable.iff_congr hin g)

/-- `boolean_is_derivability`: in Boolean mode a fact is reported true exactly when it is derivable from the certain
    facts and the uncertain facts of positive probability (`tag_from_probability(p) = p > 0`) -/
theorem boolean_is_derivability (D : Nat) (rules : List Rule) (facts certain : List Fact) (seeds : List (Fact × Nat))
    (fuel : Nat) (out : Outcome Bool) (wf : WellFormed D rules facts certain seeds)
    (h : inferProv boolProv (fun k _ => decide (k > 0)) rules facts seeds fuel = some out) (g : Fact) :
    (g ∈ out.all ∧ getTag boolProv out.tags g = true) ↔
      Derivable rules (fun f => f ∈ certain ∨ ∃ k, (f, k) ∈ seeds ∧ 0 < k) g := by
  have hin := fun g =>
    (inputsW_seedTags boolSem (fun k _ => decide (k > 0)) wf.facts_eq wf.nodup wf.disjoint (w := ()) trivial g).trans
      (or_congr_right (exists_sortSeeds_getElem.trans
        (exists_congr fun k => and_congr_right fun _ => decide_eq_true_iff)))
  exact (inferProv_exact boolSem _ rules facts seeds fuel out wf.pos wf.safe wf.nonempty h trivial g).trans
    (Derivable.iff_congr hin g)

/-! ## 6. The executable specification used by the check is the same least model -/

/-- the naive iteration the specification oracle runs (`closure`) computes exactly `Derivable` -/
theorem spec_closure_exact (rules : List Rule) (hsafe : ∀ r ∈ rules, safeRule r = true)
    (hne : ∀ r ∈ rules, r.prem ≠ []) (F M : List Fact) (fuel : Nat) (h : closure rules fuel F = some M) (g : Fact) :
    g ∈ M ↔ Derivable rules (· ∈ F) g :=
  closure_exact rules hsafe hne F fuel F M (fun _ h => h) (fun _ h => Derivable.base h) h g

/-! ## 7. Non-vacuity: a recursive program with shared evidence satisfies all hypotheses and reaches its fixpoint -/

def exRules : List Rule :=
  [⟨[⟨.var "x", .const 5, .var "y"⟩, ⟨.var "y", .const 5, .var "z"⟩], [], [⟨.var "x", .const 5, .var "z"⟩]⟩]
def exSeeds : List (Fact × Nat) := [(⟨0, 5, 1⟩, 8), (⟨1, 5, 2⟩, 6), (⟨2, 5, 0⟩, 5)]
def exFacts : List Fact := [⟨0, 5, 1⟩, ⟨1, 5, 2⟩, ⟨2, 5, 0⟩, ⟨2, 5, 3⟩]

example : WellFormed 10 exRules exFacts [⟨2, 5, 3⟩] exSeeds := by
  refine ⟨by decide, by decide, by decide, fun g => ?_, by decide, by decide, by decide⟩
  simp only [exFacts, exSeeds, List.map_cons, List.map_nil, List.mem_cons, List.not_mem_nil, or_false]
  exact (or_comm.trans (or_assoc.trans (or_congr_right or_assoc))).symm

example : ((inferProv dnfProv mkDnf exRules exFacts exSeeds 50).map
    fun o => shannon 10 (tblOf (sortSeeds exSeeds)) [0, 1, 2] (getTag dnfProv o.tags ⟨0, 5, 0⟩)) = some 240 := by
  decide +kernel

/-! ## 8. The NOT pass (`run_negative_stratum_pass`) -/

/- FULL: neg_pass_exact —
   for every program whose NOT-rule heads can feed no premise and no negated atom of any rule
   (`Driver.C06.negHeadsFeedNothing`), every input and every world `w`:
   `evalDnf w (getTag out.tags g) = true ↔ g ∈ stratified model of the program in w`
   (stratum 0 = `Derivable` over the positive rules, then one application of the NOT rules with negated atoms read
   against stratum 0), and therefore `shannon (tag g) = Σ_w weight w · [g in the stratified model of w]`.
   Proved so far: `sem_neg` (the tag of a negated atom means "not"), `tags_sound`/`tags_complete` for stratum 0, and the
   witness below that the hypothesis is forced.  Missing: the fold invariant over `negPass` (the pass reads only
   stratum-0 tags because no head matches a body atom) — the correspondence run and the specification oracle cover
   this shape (stream `program_not_heads_isolated`). -/

def clashRules : List Rule :=
  [⟨[⟨.var "x", .const 3, .var "y"⟩], [⟨.var "x", .const 4, .var "y"⟩], [⟨.var "x", .const 5, .var "y"⟩]⟩,
   ⟨[⟨.var "x", .const 5, .var "y"⟩], [], [⟨.var "x", .const 6, .var "y"⟩]⟩]

/-- `not_heads_clash`: outside that hypothesis the code (as transcribed) is wrong: `0 5 1` is derived by the NOT rule
    but never fed to the positive rule `x 5 y → x 6 y`, so `0 6 1`, true in the stratified model of the world where
    the input holds, is not reported at all (replayed on the real code: known finding C06-not-heads-not-propagated) -/
theorem not_heads_clash :
    (inferProv dnfProv mkDnf clashRules [⟨0, 3, 1⟩] [(⟨0, 3, 1⟩, 1)] 50).map (fun o => o.all.contains ⟨0, 6, 1⟩) = some false ∧
    (modelOf clashRules 50 [⟨0, 3, 1⟩]).map (fun m => m.contains ⟨0, 6, 1⟩) = some true := by
  constructor <;> decide +kernel

end Kolibrie.Props.C06
