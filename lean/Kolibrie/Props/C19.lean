import Kolibrie.Lemmas.RepairQuery
/-!
# C19 — inconsistency-tolerant answers are those true in every maximal repair

Property theorems only (helper lemmas: `Lemmas/Repairs.lean`, `Lemmas/RepairSearch.lean`, `Lemmas/RepairQuery.lean`).
Model: `Model/Repairs.lean` — `compute_repairs` **with** `fixes/C19_maximal_repairs.patch` (`computeRepairs`) and as
written at the pinned commit (`searchOld`), `violates_constraints`, `query_with_repairs`,
`infer_new_facts_semi_naive_with_repairs`.  Specification: `Spec/Repairs.lean`.

The *order oracle* (hash iteration order) is the order of the fact list `F`; every theorem quantifies over all
lists `F`, so over all orders.  Fuel only bounds the exponential search: the statements are "if the search
finishes, then …" for every fuel.  No size bound enters a theorem.
-/
namespace Kolibrie.Props.C19
open Kolibrie.Terms Kolibrie.Repairs Kolibrie.RepairSpec

/-- `violates_constraints` decides exactly "some non-empty constraint body has a ground instance in the set". -/
theorem violates_spec (C : List (List Pattern)) (S : List Fact) : violates C S = true ↔ Violated C S :=
  violates_iff C S

/-- the executable specification used by the driver decides the same predicate -/
theorem specViolates_spec (C : List (List Pattern)) (S : List Fact) : specViolates C S = true ↔ Violated C S :=
  specViolates_iff C S

/-- A fact of `F` that can be added to every consistent subset without breaking consistency (a fact in no
    conflict) belongs to every repair. -/
theorem free_facts_survive {α : Type} (viol : List α → Bool) (F : List α) (f : α) (hf : f ∈ F)
    (hfree : ∀ S, S ⊆ F → viol S = false → viol (f :: S) = false) :
    ∀ S, IsRepair viol F S → f ∈ S :=
  fun S hS => hS.2.2 (f :: S) (List.cons_subset.2 ⟨hf, hS.1⟩) (List.subset_cons_self f S) (hfree S hS.1 hS.2.1)
    List.mem_cons_self

example : ∀ S, IsRepair (violates [[⟨.var "x", .const 10, .const 20⟩, ⟨.var "x", .const 10, .const 21⟩]])
    [⟨0, 10, 20⟩, ⟨0, 10, 21⟩, ⟨1, 11, 2⟩] S → (⟨1, 11, 2⟩ : Fact) ∈ S := by
  refine free_facts_survive _ _ _ (by simp) fun S _ hS => ?_
  -- an instance of a premise of the constraint has predicate 10, so it is not the added fact
  rw [Bool.eq_false_iff, Ne, violates_iff] at hS ⊢
  rintro ⟨c, hc, hne, σ, hall⟩
  refine hS ⟨c, hc, hne, σ, fun p hp => (List.mem_cons.1 (hall p hp)).resolve_left fun h => ?_⟩
  cases List.mem_singleton.1 hc
  simp only [List.mem_cons, List.not_mem_nil, or_false] at hp
  rcases hp with rfl | rfl <;> simp [Pattern.inst, Term.eval] at h

/-- the specification's enumeration lists exactly the repairs (one representative per subset of `F`) -/
theorem all_repairs_enumerated {α : Type} [DecidableEq α] (viol : List α → Bool) (hv : SetInv viol) (F S : List α) :
    S ∈ allRepairs viol F ↔ S ∈ subs F ∧ IsRepair viol F S :=
  allRepairs_iff hv F S

/-- the specification's answers: bindings of facts that lie in every enumerated repair -/
theorem answers_iff (viol : List Fact → Bool) (F : List Fact) (q : Pattern) (b : Binding) :
    b ∈ iarAnswers viol F q ↔ ∃ f ∈ F, matchPat q f [] = some b ∧ ∀ S ∈ allRepairs viol F, f ∈ S := by
  simp only [iarAnswers, List.mem_filterMap]
  refine exists_congr fun f => and_congr_right fun _ => ?_
  cases hm : matchPat q f [] with
  | none => exact ⟨nofun, fun h => nomatch h.1⟩
  | some b' =>
    dsimp only
    by_cases hall : (allRepairs viol F).all (fun S => decide (f ∈ S)) = true
    · rw [if_pos hall, Option.some.injEq]
      exact iff_self_and.2 fun _ S hS => of_decide_eq_true (List.all_eq_true.1 hall S hS)
    · rw [if_neg hall]
      exact ⟨nofun, fun ⟨_, h⟩ => absurd (List.all_eq_true.2 fun S hS => decide_eq_true (h S hS)) hall⟩

/-- **Repairs are exactly the subset-maximal consistent subsets** — for the repaired `compute_repairs`, every
    iteration order of the fact set (`F` is any duplicate-free list), every consistency test that only depends on
    the set, every fuel that lets the search finish: each returned set is a repair, and every repair is returned
    (as a set). -/
theorem repairs_correct (viol : List Fact → Bool) (hv : SetInv viol) (F : List Fact) (hF : F.Nodup)
    (fuel : Nat) (R : List (List Fact)) (h : computeRepairs viol fuel F = some R) :
    (∀ r ∈ R, IsRepair viol F r) ∧ (∀ S, IsRepair viol F S → ∃ r ∈ R, S ⊆ r ∧ r ⊆ S) :=
  computeRepairs_spec hv hF h

/-- instance for the code's own consistency test -/
theorem repairs_correct_constraints (C : List (List Pattern)) (F : List Fact) (hF : F.Nodup)
    (fuel : Nat) (R : List (List Fact)) (h : computeRepairs (violates C) fuel F = some R) :
    (∀ r ∈ R, IsRepair (violates C) F r) ∧ (∀ S, IsRepair (violates C) F S → ∃ r ∈ R, S ⊆ r ∧ r ⊆ S) :=
  computeRepairs_spec (setInv_violates C) hF h

example : (searchOld (violates [[⟨.var "x", .const 10, .const 20⟩, ⟨.var "x", .const 10, .const 21⟩]]) 50
    [⟨0, 10, 20⟩, ⟨0, 10, 21⟩, ⟨1, 11, 2⟩]).map maximalOnly
      = some [[⟨0, 10, 20⟩, ⟨1, 11, 2⟩], [⟨0, 10, 21⟩, ⟨1, 11, 2⟩]] := by
  decide +kernel

/-- **The result does not depend on the order**: two orders of the same fact set give the same repairs (as sets). -/
theorem repairs_order_independent (viol : List Fact → Bool) (hv : SetInv viol) (F F' : List Fact)
    (hF : F.Nodup) (hF' : F'.Nodup) (hperm : ∀ x, x ∈ F ↔ x ∈ F') (fuel fuel' : Nat) (R R' : List (List Fact))
    (h : computeRepairs viol fuel F = some R) (h' : computeRepairs viol fuel' F' = some R') :
    ∀ r ∈ R, ∃ r' ∈ R', r ⊆ r' ∧ r' ⊆ r :=
  fun r hr => (computeRepairs_spec hv hF' h').2 r (isRepair_congr hv hperm (fun _ => .rfl) ((computeRepairs_spec hv hF h).1 r hr))

/-- **`query_with_repairs` returns exactly the answers true in every repair** (for the repaired repair list,
    every order, every goal pattern). -/
theorem query_correct (C : List (List Pattern)) (F : List Fact) (hF : F.Nodup) (fuel : Nat)
    (R : List (List Fact)) (h : computeRepairs (violates C) fuel F = some R) (q : Pattern) (b : Binding) :
    b ∈ queryWithRepairs R q ↔ ∃ f, matchPat q f [] = some b ∧ ∀ S, IsRepair (violates C) F S → f ∈ S := by
  obtain ⟨hs, hc⟩ := computeRepairs_spec (setInv_violates C) hF h
  exact queryWithRepairs_spec (violates_nil C) hs hc q b

/-- … and these are the answers the executable specification prints. -/
theorem query_eq_spec (C : List (List Pattern)) (F : List Fact) (hF : F.Nodup) (fuel : Nat)
    (R : List (List Fact)) (h : computeRepairs (violates C) fuel F = some R) (q : Pattern) (b : Binding) :
    b ∈ queryWithRepairs R q ↔ b ∈ iarAnswers (violates C) F q := by
  rw [query_correct C F hF fuel R h, answers_iff]
  have hv := setInv_violates C
  constructor
  · rintro ⟨f, hm, hall⟩
    obtain ⟨S0, hS0⟩ := exists_repair (viol := violates C) (F := F) (violates_nil C)
    exact ⟨f, hS0.1 (hall S0 hS0), hm, fun S hS => hall S ((allRepairs_iff hv F S).1 hS).2⟩
  · rintro ⟨f, _, hm, hall⟩
    exact ⟨f, hm, fun S hS => (mem_filter_mem hS.1 f).1 (hall _ (filter_mem_allRepairs hv hS))⟩

/-- **The pre-fix search keeps non-maximal sets, depending on the order**: for the fact order
    `x type A, x type B, y likes z` and the constraint `A ∧ B`, the list returned by the search as written at the
    pinned commit contains `{x type A}`, which is not a repair (`y likes z` can be added), and `query_with_repairs`
    over that list answers `?s ?p ?o` with nothing — it draws its candidate answers from the first element, which
    misses `y likes z`, a fact of every repair; for another order of the same facts the search returns the two
    repairs. -/
theorem model_not_maximal :
    ∃ (C : List (List Pattern)) (F F' : List Fact) (R R' : List (List Fact)) (r : List Fact),
      searchOld (violates C) 50 F = some R ∧ r ∈ R ∧ ¬ IsRepair (violates C) F r ∧
      queryWithRepairs R ⟨.var "s", .var "p", .var "o"⟩ = [] ∧
      (∀ x, x ∈ F ↔ x ∈ F') ∧ searchOld (violates C) 50 F' = some R' ∧
      R' = [[⟨1, 11, 2⟩, ⟨0, 10, 20⟩], [⟨1, 11, 2⟩, ⟨0, 10, 21⟩]] := by
  refine ⟨[[⟨.var "x", .const 10, .const 20⟩, ⟨.var "x", .const 10, .const 21⟩]],
    [⟨0, 10, 20⟩, ⟨0, 10, 21⟩, ⟨1, 11, 2⟩], [⟨1, 11, 2⟩, ⟨0, 10, 20⟩, ⟨0, 10, 21⟩],
    [[⟨0, 10, 20⟩], [⟨0, 10, 21⟩], [⟨0, 10, 20⟩, ⟨1, 11, 2⟩], [⟨0, 10, 21⟩, ⟨1, 11, 2⟩]],
    [[⟨1, 11, 2⟩, ⟨0, 10, 20⟩], [⟨1, 11, 2⟩, ⟨0, 10, 21⟩]], [⟨0, 10, 20⟩],
    by decide +kernel, by simp, ?_, by decide +kernel, ?_, by decide +kernel, rfl⟩
  · intro h
    have := h.2.2 [⟨0, 10, 20⟩, ⟨1, 11, 2⟩] (by simp) (by simp) (by decide +kernel)
    simp at this
  · intro x
    simp only [List.mem_cons, List.not_mem_nil, or_false]
    constructor <;> (intro h; rcases h with h | h | h <;> simp [h])

/-- **Repair-aware materialisation ends in a consistent fact set** — for every order in which the joined
    bindings are processed (`ord` is arbitrary), every rule set, every fuel that lets the run finish. -/
theorem infer_with_repairs_consistent (C : List (List Pattern)) (rules : List Rule)
    (ord : List Binding → List Binding) (fuelR fuelI : Nat) (F : List Fact) (hF : F.Nodup)
    (res : List Fact × List Fact) (h : inferWithRepairs C rules ord fuelR fuelI F = some res) :
    violates C res.1 = false := by
  unfold inferWithRepairs at h
  cases hF0 : violates C F with
  | false => rw [hF0] at h; exact inferLoop_consistent C rules ord fuelI F F [] res hF0 h
  | true =>
    rw [hF0, if_pos rfl] at h
    cases hreps : computeRepairs (violates C) fuelR F with
    | none => rw [hreps] at h; cases h
    | some reps =>
      rw [hreps] at h
      dsimp only at h
      obtain ⟨hs, hc⟩ := computeRepairs_spec (setInv_violates C) hF hreps
      cases hbest : maxByLen reps with
      | some best =>
        rw [hbest] at h
        exact inferLoop_consistent C rules ord fuelI best best [] res (hs best (maxByLen_mem hbest)).2.1 h
      | none =>
        -- there is a repair, so the list is not empty
        obtain ⟨S, hS⟩ := exists_repair (F := F) (violates_nil C)
        obtain ⟨r, hr, _⟩ := hc S hS
        cases reps with
        | nil => cases hr
        | cons a l => cases hbest

example : (inferWithRepairs [[⟨.var "x", .const 10, .const 20⟩, ⟨.var "x", .const 10, .const 21⟩]]
    [⟨[⟨.var "a", .const 11, .var "b"⟩], [⟨.var "b", .const 10, .const 20⟩, ⟨.var "b", .const 10, .const 21⟩]⟩] id 50 10
    [⟨0, 10, 20⟩, ⟨1, 11, 2⟩]).map (·.1) = some [⟨0, 10, 20⟩, ⟨1, 11, 2⟩, ⟨2, 10, 20⟩] := by decide +kernel

end Kolibrie.Props.C19
