import Kolibrie.Model.Hybrid
import Kolibrie.Spec.Worlds
import Kolibrie.Lemmas.Hybrid
/-!
# C08 — hybrid probability results never certify a wrong decision

Property theorems only (helper lemmas: `Kolibrie/Lemmas/Hybrid.lean`).  Model: `Kolibrie/Model/Hybrid.lean`
(lineage store with `canonical_nary`, best-first proof enumeration, interval computation, retained-proof count,
adaptive-k escalation controller, fixed-k evaluator; clock `Nat → Nat` = value of the i-th `HybridClock::now()`,
SDD invocations as an oracle giving checkpoint count and node-budget outcome).  Specification:
`Kolibrie/Spec/Worlds.lean` (`specMass ss φ / specTotal ss` = probability of `φ` as an explicit sum over possible
worlds: every independent seed true or false, exactly one member of every exclusive group).

Quantifiers: every theorem about the controller holds for **every** configuration (valid or not), **every**
clock function (hence every expiry point of either deadline, monotone or not), **every** SDD oracle (any number of
checkpoints, any node-budget outcome, per invocation) and every amount of fuel (a run that exhausts it returns
`Fuel`, a result of the model only, about which nothing is claimed).  No size bound appears anywhere.
The controller theorems have one hypothesis, `seedsOk ss` (distinct seed ids, `num ≤ den`, groups sum to one), reported by the
driver as `H dup_seed_ids / bad_probability / group_not_normalized` when a request violates it; the enumeration theorems
(`bounds_sound`, `exact_when_exhausted`, `topk_sound`) also ask that the lineage mentions no exclusive seed, and
`canonical_nary_sem` a well-formed store with its items in range.
-/
namespace Kolibrie.Props.C08
open Kolibrie.Hybrid

/-! ## the lineage store -/

/-- `canonical_nary` (flattening nested nodes of the same kind, dropping identities, returning the annihilator,
    sort + dedup, complement detection in both directions, single-child collapse, hash-consing) preserves
    meaning: the returned id denotes the conjunction (disjunction) of the items, old ids keep their meaning and
    the arena invariant is maintained. -/
theorem canonical_nary_sem (st : Store) (hw : st.WF) (isAnd : Bool) (items : List Nat)
    (hitems : ∀ x ∈ items, x < st.nodes.length) :
    (st.canonicalNary isAnd items).1.WF ∧ st.Ext (st.canonicalNary isAnd items).1 ∧
    (st.canonicalNary isAnd items).2 < (st.canonicalNary isAnd items).1.nodes.length ∧
    ∀ w, sem w ((st.canonicalNary isAnd items).1.tree (st.canonicalNary isAnd items).2) =
      (if isAnd then items.all (fun x => sem w (st.tree x)) else items.any (fun x => sem w (st.tree x))) :=
  canonicalNary_spec hw isAnd hitems

/-- `LineageStore::literal` and `LineageStore::not` (double negation and constant folding included) -/
theorem literal_not_sem (st : Store) (hw : st.WF) :
    (∀ s, (st.literal s).1.WF ∧ st.Ext (st.literal s).1 ∧ (st.literal s).2 < (st.literal s).1.nodes.length ∧
      ∀ w, sem w ((st.literal s).1.tree (st.literal s).2) = w.contains s) ∧
    (∀ id, id < st.nodes.length →
      (st.not id).1.WF ∧ st.Ext (st.not id).1 ∧ (st.not id).2 < (st.not id).1.nodes.length ∧
      ∀ w, sem w ((st.not id).1.tree (st.not id).2) = !sem w (st.tree id)) :=
  ⟨literal_spec hw, fun _ => not_spec hw⟩

/-- the initial store satisfies the arena invariant (so every store built through the four operations does) -/
theorem store_new_wf : Store.new.WF := Store.WF_new

example : (Store.new.literal 3).1.WF := (literal_spec Store.WF_new 3).1

/-! ## the proof enumeration -/

/-- **Cover invariant**, initially: the start state of `enumerate_proofs` satisfies it. -/
theorem cover_init (ss : List Seed) (q : Nat → Bool) (φ : L) (hφ : allLits q φ = true) :
    Inv ss q φ { frontier := [{ pending := [φ], proof := [], ub := total (units ss), seq := 0 }], emitted := [], seq := 0 } :=
  Inv.init ss hφ

/-- **Cover invariant**, one step (generic form used for every branch of the loop body — `False`, `True`, literal,
    `And`, `Or`, complete-and-subsumed, complete-and-replacing): if the popped state `s` is replaced by states `new`
    and the emitted list by `em` such that every world of `s` is still covered and nothing unsound is added, the
    invariant — every world satisfying `φ` satisfies an emitted proof or a frontier state; every emitted proof and
    every frontier state implies `φ`; upper bounds are the products of their proofs — is preserved. -/
theorem cover_step (ss : List Seed) (q : Nat → Bool) (φ : L) (st : EState) (s : PState) (rest new : List PState)
    (em : List Proof) (k : Nat) (hinv : Inv ss q φ st) (hpop : popMax st.frontier = some (s, rest))
    (h1 : ∀ w, s.sat w = true → (∃ e ∈ em, covers e w = true) ∨ (∃ s' ∈ new, s'.sat w = true))
    (h2 : ∀ e ∈ st.emitted, ∀ w, covers e w = true → ∃ e' ∈ em, covers e' w = true)
    (h3 : ∀ e' ∈ em, (∀ w, covers e' w = true → sem w φ = true) ∧ ∀ x ∈ e', q x = true)
    (h4 : ∀ s' ∈ new, (∀ w, s'.sat w = true → s.sat w = true) ∧ proofMass ss s'.proof = some s'.ub ∧
        (∀ x ∈ s'.proof, q x = true) ∧ allLitsL q s'.pending = true) :
    Inv ss q φ { frontier := new ++ rest, emitted := em, seq := k } :=
  Inv.step k hinv hpop h1 h2 h3 h4

/-- the expansion of a pending node produces exactly the states `cover_step` needs (the five node kinds that are
    expanded; `Not` is refused) -/
theorem cover_expand (ss : List Seed) (q : Nat → Bool) (s : PState) (f : L) (pend : List L) (seq : Nat)
    (new : List PState) (n : Nat) (h : expand ss s f pend seq = .push new n)
    (hub : proofMass ss s.proof = some s.ub)
    (hq : (∀ x ∈ s.proof, q x = true) ∧ allLits q f = true ∧ allLitsL q pend = true) :
    (∀ w, new.any (·.sat w) = (covers s.proof w && sem w f && semAll w pend)) ∧
    (∀ s' ∈ new, proofMass ss s'.proof = some s'.ub) ∧
    (∀ s' ∈ new, (∀ x ∈ s'.proof, q x = true) ∧ allLitsL q s'.pending = true) :=
  expand_spec h hub hq

/-- **Cover invariant at every exit of the loop**, for every clock, cap, deadline, start state and fuel: every
    returned proof implies `φ`; an exhausted frontier means the proofs cover `φ`; a bounded residual `m` satisfies
    `P(φ) ≤ P(⋁ proofs) + m`. -/
theorem cover_loop (ss : List Seed) (hs : seedsOk ss = true) (q : Nat → Bool)
    (hq : ∀ x, q x = true → x ∉ grpIds (units ss)) (φ : L) (cap : Nat) (clock : Nat → Nat) (deadline : Nat)
    (fuel : Nat) (st : EState) (i : Nat) (hinv : Inv ss q φ st) :
    EnumSpec ss q φ (enumLoop ss cap clock deadline fuel st i).1 :=
  enumLoop_spec hs hq fuel st i hinv

/-- **Bounds are sound**: whenever the enumeration of a lineage without exclusive seeds completes (at any clock
    reading, with any cap) and `interval_from_enumeration` yields an interval for `retained` retained proofs, then
    `lower = P(⋁ retained) ≤ P(φ) ≤ upper` (upper = lower + probe mass + frontier mass, clamped). -/
theorem bounds_sound (ss : List Seed) (hs : seedsOk ss = true) (φ : L)
    (hφ : allLits (fun s => !isExclusive ss s) φ = true)
    (cap : Nat) (clock : Nat → Nat) (deadline fuel i : Nat) (proofs : List Proof) (residual : Residual) (i' : Nat)
    (henum : enumerateProofs ss φ cap clock deadline fuel i = (.ok proofs residual, i'))
    (retained lo hi : Nat)
    (hint : intervalFromEnumeration ss (mass ss (dnf (proofs.take retained))) proofs retained residual = .interval lo hi) :
    lo = specMass ss (dnf (proofs.take retained)) ∧ lo ≤ specMass ss φ ∧ specMass ss φ ≤ hi := by
  have hE := enumerateProofs_spec hs (nonexcl_notin_grp hs) hφ cap clock deadline fuel i
  rw [henum] at hE
  have := interval_sound hs (nonexcl_notin_grp hs) hE hint
  exact ⟨by rw [this.1, mass_eq_spec hs], this.2⟩

/-- **Exhausted frontier = exact value**: if the enumeration ends with an empty frontier and at most `k` proofs,
    the retained-proof count equals `P(φ)`. -/
theorem exact_when_exhausted (ss : List Seed) (hs : seedsOk ss = true) (φ : L)
    (hφ : allLits (fun s => !isExclusive ss s) φ = true)
    (k : Nat) (clock : Nat → Nat) (deadline fuel i : Nat) (proofs : List Proof) (i' : Nat)
    (henum : enumerateProofs ss φ (k + 1) clock deadline fuel i = (.ok proofs .Exhausted, i'))
    (hlen : proofs.length ≤ k) :
    mass ss (dnf (proofs.take (min proofs.length k))) = specMass ss φ := by
  have hE := enumerateProofs_spec hs (nonexcl_notin_grp hs) hφ (k + 1) clock deadline fuel i
  rw [henum] at hE
  rw [mass_eq_spec hs]
  exact hE.exhausted hlen

/-! ## the escalation controller -/

/-- **No result certifies a wrong decision.**  For every snapshot of well-formed seeds, every lineage formula
    (monotone or not, with or without exclusive seeds, with or without missing seeds), every configuration, every
    clock (so: deadline expiry at any reading of either budget), every SDD oracle (any checkpoint counts, any
    node-budget outcome) and any fuel:
    `Exact p` ⇒ `p = P(φ)`; `Bounded [lo,hi]` ⇒ `lo ≤ P(φ) ≤ hi`; `Alert` ⇒ `P(φ) ≥ θ`; `NoAlert` ⇒ `P(φ) < θ`;
    `Exact`/`Bounded` always carry a decision; `NeedsExact` carries only sound partial bounds; nothing is said of
    `Fuel`. -/
theorem decision_sound (ss : List Seed) (hs : seedsOk ss = true) (cfg : Config) (φ : L)
    (clock : Nat → Nat) (oracle : SddOracle) (fuel : Nat) :
    soundResult ss cfg φ (evaluateHybrid ss cfg φ clock oracle fuel).1 := by
  obtain ⟨hok, hret⟩ := topkStage_spec ss cfg φ clock oracle fuel hs
  rcases evaluateHybrid_cases ss cfg φ clock oracle fuel with h | h | ⟨_, ⟨m, _, h⟩ | ⟨r, m, h⟩⟩
  · rw [h]; exact ⟨nofun, nofun⟩
  · exact hret _ h
  · rw [h, mass_eq_spec hs]; exact soundResult_exact hs _ m
  · rw [h]
    cases hlast : (topkStage ss cfg φ clock oracle fuel).2.last with
    | none => exact ⟨hok.1, nofun⟩
    | some lh =>
      exact ⟨fun l hl => by cases hl; exact (hok.2 _ _ hlast).1, fun h hh => by cases hh; exact (hok.2 _ _ hlast).2⟩

/-- The verdict depends on the formula only through its meaning: a result computed for the *canonicalised* root `φ`
    is sound for any formula `ψ` with the same truth table (e.g. the un-canonicalised one the caller wrote down;
    `canonical_nary_sem` and `literal_not_sem` provide the equality step by step).  This is what the correspondence
    run's specification oracle evaluates. -/
theorem decision_sound_sem (ss : List Seed) (hs : seedsOk ss = true) (cfg : Config) (φ ψ : L)
    (hsem : ∀ w, sem w φ = sem w ψ) (clock : Nat → Nat) (oracle : SddOracle) (fuel : Nat) :
    soundResult ss cfg ψ (evaluateHybrid ss cfg φ clock oracle fuel).1 := by
  have h := decision_sound ss hs cfg φ clock oracle fuel
  unfold soundResult at h ⊢
  rwa [← specMass_congr ss hsem]

/-- **Never a guessed decision**: whatever the clock does (expiry at any reading), whatever the SDD budgets do, the
    controller's result is one of the four certified kinds — which `decision_sound` shows correct — or the explicit
    `NeedsExact` (decision `Indeterminate`).  There is no other way out of the controller, `Fuel` (the model ran
    out of fuel) apart. -/
theorem result_kinds (ss : List Seed) (cfg : Config) (φ : L) (clock : Nat → Nat) (oracle : SddOracle) (fuel : Nat) :
    certKind (evaluateHybrid ss cfg φ clock oracle fuel).1 := by
  rcases evaluateHybrid_cases ss cfg φ clock oracle fuel with h | h | ⟨_, ⟨m, _, h⟩ | ⟨r, m, h⟩⟩
  · rw [h]; trivial
  · exact topkStage_kind ss cfg φ clock oracle fuel h
  · rw [h]; exact Or.inr rfl
  · rw [h]; trivial

/-- **Non-monotone or exclusive lineage never takes the top-k path**: the controller goes straight to the exact
    stage (result `Exact … ExactSdd` or `NeedsExact` without bounds), `evaluate_topk` refuses, and the enumeration
    itself refuses a `Not` node. -/
theorem negation_never_topk (ss : List Seed) (cfg : Config) (φ : L) (clock : Nat → Nat) (oracle : SddOracle)
    (fuel : Nat) (h : hasNeg φ = true ∨ allLits (fun s => !isExclusive ss s) φ = false) :
    (match (evaluateHybrid ss cfg φ clock oracle fuel).1 with
      | .Exact _ _ r m => r = .ExactSdd ∧ m.exactUsed = true
      | .Bounded _ _ _ _ _ => False
      | .NeedsExact lo hi _ _ => lo = none ∧ hi = none
      | .Fuel => False) ∧
    (∀ k budget nb, k ≠ 0 → ∃ r, evaluateTopk ss φ k budget nb clock oracle fuel = .err r ∧
        (r = .NegationRequiresExact ∨ r = .ExclusivityRequiresExact)) ∧
    (∀ s c pend seq, expand ss s (.not c) pend seq = .err .NegationRequiresExact) := by
  refine ⟨?_, ?_, fun _ _ _ _ => rfl⟩
  · have hstage : topkStage ss cfg φ clock oracle fuel = (none, { clk := { i := 1 } }) := by
      have hguard : ((metadata ss φ).monotone && !(metadata ss φ).hasExclusive) = false := by
        simp only [metadata]
        rcases h with h | h <;> simp [h]
      rw [topkStage, hguard]; rfl
    rcases evaluateHybrid_cases ss cfg φ clock oracle fuel with he | he | ⟨_, ⟨m, hm, he⟩ | ⟨r, m, he⟩⟩
    · rw [he]; exact ⟨rfl, rfl⟩
    · rw [hstage] at he; cases he
    · rw [he]; exact ⟨rfl, hm⟩
    · rw [he, hstage]; exact ⟨rfl, rfl⟩
  · intro k budget nb hk
    unfold evaluateTopk
    rw [if_neg hk]
    dsimp only
    by_cases hn : ((metadata ss φ).hasNegation || !(metadata ss φ).monotone) = true
    · rw [if_pos hn]; exact ⟨_, rfl, Or.inl rfl⟩
    · have hx : (metadata ss φ).hasExclusive = true := by
        simp only [metadata] at hn ⊢
        rcases h with h | h
        · simp [h] at hn
        · simp [h]
      rw [if_neg hn, if_pos hx]; exact ⟨_, rfl, Or.inr rfl⟩

/-- `evaluate_topk` at a fixed k: a certified lower bound, an interval containing `P(φ)`, exact when the frontier is
    exhausted — for every clock and SDD oracle. -/
theorem topk_sound (ss : List Seed) (hs : seedsOk ss = true) (φ : L) (k budget nb : Nat) (clock : Nat → Nat)
    (oracle : SddOracle) (fuel : Nat) (lower lo hi ku gain : Nat) (fe cap : Bool)
    (h : evaluateTopk ss φ k budget nb clock oracle fuel = .ok lower lo hi ku fe cap gain) :
    lower ≤ specMass ss φ ∧ lo ≤ specMass ss φ ∧ specMass ss φ ≤ hi ∧ (fe = true → lower = specMass ss φ) := by
  obtain ⟨hφ, proofs, residual, hen, rfl, hint, rfl⟩ := evaluateTopk_ok h
  have hE := enumerateProofs_spec hs (nonexcl_notin_grp hs) hφ (k + 1) clock (clock 0 + budget) fuel 1
  rw [hen] at hE
  obtain ⟨_, h1, h2⟩ := interval_sound hs (nonexcl_notin_grp hs) hE hint
  rw [mass_eq_spec hs]
  refine ⟨hE.take_le _, h1, h2, fun hfe => ?_⟩
  simp only [Bool.and_eq_true, beq_iff_eq, decide_eq_true_eq] at hfe
  obtain ⟨rfl, hlen⟩ := hfe
  exact hE.exhausted hlen

/-! ## non-vacuity: the hypotheses are satisfiable; both `Bounded` certificates, `Exact` and `NeedsExact` occur -/

/-- the fixture of the repository's own tests: x = 0.8, y = 0.6, z = 0.5 (tenths), φ = (x ∧ y) ∨ (x ∧ z), P = 0.64 -/
def exSeeds : List Seed := [⟨0, 8, 10, none⟩, ⟨1, 6, 10, none⟩, ⟨2, 5, 10, none⟩]
def exRoot : L := .or [.and [.lit 0, .lit 1], .and [.lit 0, .lit 2]]
def exCfg (tn : Nat) : Config := { tn := tn, en := 2, fn := 0, cd := 100, kInit := 1, kMax := 1, kGrowth := 2, b1 := 25, b2 := 250, nodeBudget := 1000 }
def exOracle : SddOracle := fun _ _ => { readings := 3, nodesOk := true }

example : seedsOk exSeeds = true := by decide +kernel
example : specMass exSeeds exRoot = 640 ∧ specTotal exSeeds = 1000 := by decide +kernel
-- threshold 0.3, k = 1: certified Alert from the lower bound 0.48
example : (match (evaluateHybrid exSeeds (exCfg 30) exRoot (fun _ => 0) exOracle 100).1 with
    | .Bounded 480 880 .Alert .LowerBoundCrossedThreshold _ => true | _ => false) = true := by decide +kernel
-- threshold 0.9: certified NoAlert from the upper bound 0.88
example : (match (evaluateHybrid exSeeds (exCfg 90) exRoot (fun _ => 0) exOracle 100).1 with
    | .Bounded 480 880 .NoAlert .UpperBoundBelowThreshold _ => true | _ => false) = true := by decide +kernel
-- threshold 0.6: neither bound decides; the controller escalates to the exact stage
example : (match (evaluateHybrid exSeeds (exCfg 60) exRoot (fun _ => 0) exOracle 100).1 with
    | .Exact 640 .Alert .ExactSdd _ => true | _ => false) = true := by decide +kernel
-- the same with a clock that runs past every deadline from the fifth reading on: no decision, sound partial bounds
example : (match (evaluateHybrid exSeeds (exCfg 60) exRoot (fun i => if i < 5 then 0 else 1000 * i) exOracle 100).1 with
    | .NeedsExact _ _ .SddBudget _ => true | _ => false) = true := by decide +kernel

-- the store: x ∧ ¬x collapses to FALSE, x ∨ ¬x to TRUE, nested conjunctions are flattened and deduplicated
example :
    let s0 := Store.new
    let (s1, x) := s0.literal 7
    let (s2, y) := s1.literal 9
    let (s3, nx) := s2.not x
    let (s4, xy) := s3.and [x, y]
    ((s4.and [x, nx]).2, (s4.or [nx, 0, x]).2, (s4.and [xy, 1, x, y]).2) = (0, 1, xy) := by decide +kernel
-- bounds_sound / exact_when_exhausted: an enumeration that completes with a bounded residual, and one that exhausts
example : (enumerateProofs exSeeds exRoot 2 (fun _ => 0) 5 100 0).1 matches .ok [[0, 1], [0, 2]] (.Bounded 0) := by
  decide +kernel
example : (enumerateProofs exSeeds exRoot 3 (fun _ => 0) 5 100 0).1 matches .ok [[0, 1], [0, 2]] .Exhausted := by
  decide +kernel
example : intervalFromEnumeration exSeeds (mass exSeeds (dnf [[0, 1]])) [[0, 1], [0, 2]] 1 (.Bounded 0) = .interval 480 880 := by
  decide +kernel
example : allLits (fun s => !isExclusive exSeeds s) exRoot = true := by decide +kernel
end Kolibrie.Props.C08
