import Kolibrie.Lemmas.Datalog
/-!
# C05 — rule materialisation computes exactly the least model of the program

Property theorems only (helper lemmas: `Kolibrie/Lemmas/Datalog.lean`).  Model: `Kolibrie/Model/Datalog.lean`
(fixpoint driver `drive`, naive and semi-naive rounds, the parallel strategy as written, the Boolean-provenance
stratified driver).  Specification: `Kolibrie/Spec/LeastModel.lean` (`Derivable` = textbook least model over total
valuations, `Strat` = stratified model for one stratum of negation, `specModel` = executable expected output).

Every statement quantifies over every program `P`, every fact list `F`, every numeric reading `val` of the
dictionary and every amount of fuel; "the run reports a fixpoint" is `… = some S`.  `allSafe P` is rule safety
(at least one premise; head, filter and negated variables occur in a premise) — the scope of the property.
-/
namespace Kolibrie.Props.C05
open Kolibrie.Datalog

/-! ## soundness -/

/-- **Soundness of one naive round**: every fact a round infers is derivable, if the facts it started from are. -/
theorem round_sound (val : Nat → Int) (P : List Rule) (F all : List Fact) (hs : allSafe P = true)
    (h : ∀ f ∈ all, Derivable val P F f) : ∀ f ∈ roundNaive val P all, Derivable val P F f :=
  fun _ hf => derivable_of_conseq h ((mem_roundNaive_iff hs).1 hf).2

/-- **Soundness of one semi-naive round**, for every position of the delta window. -/
theorem round_sound_semi (val : Nat → Int) (P : List Rule) (F all : List Fact) (start : Nat)
    (hs : allSafe P = true) (h : ∀ f ∈ all, Derivable val P F f) :
    ∀ f ∈ (roundSemi val P start all).2, Derivable val P F f :=
  fun f hf => derivable_of_conseq h (soundRound_semi hs start all f hf).2

/-- **Every iterate is sound**: after any number of rounds of either strategy the store only holds derivable facts. -/
theorem iter_sound (val : Nat → Int) (P : List Rule) (F : List Fact) (k : Nat) (hs : allSafe P = true) :
    (∀ f ∈ iterNaive val P k F, Derivable val P F f) ∧ (∀ f ∈ iterSemi val P k F, Derivable val P F f) :=
  ⟨(iter_sound_of (soundRound_naive hs) k () F Sound.refl).2, (iter_sound_of (soundRound_semi hs) k 0 F Sound.refl).2⟩

/-! ## completeness -/

/-- **Fixpoint completeness**: a fact set that contains the input and is closed under the immediate-consequence
    operator contains every derivable fact. -/
theorem fixpoint_complete (val : Nat → Int) (P : List Rule) (F S : List Fact)
    (hF : ∀ f ∈ F, f ∈ S) (hc : Closed val P S) : ∀ f, Derivable val P F f → f ∈ S :=
  derivable_sub_closed hF hc

/-- **A naive round that infers nothing certifies closure** (what the driver's exit test observes). -/
theorem naive_exit_closed (val : Nat → Int) (P : List Rule) (S : List Fact) (hs : allSafe P = true)
    (h : roundNaive val P S = []) : Closed val P S :=
  closed_of_roundNaive_nil hs h

/-- **The delta lemma**: under the loop invariant (consequences of the facts before the delta window are
    present), a semi-naive round finds exactly the new consequences of *all* facts. -/
theorem delta_lemma (val : Nat → Int) (P : List Rule) (F all : List Fact) (start : Nat) (hs : allSafe P = true)
    (hI : SemiInv val P F start all) (f : Fact) :
    f ∈ (roundSemi val P start all).2 ↔ f ∉ all ∧ Conseq val P (· ∈ all) f :=
  mem_roundSemi_iff hs hI

/-- **Semi-naive = naive**: after every number of rounds both strategies hold the same fact set. -/
theorem semi_eq_naive (val : Nat → Int) (P : List Rule) (F : List Fact) (hs : allSafe P = true) (k : Nat) :
    ∀ f, f ∈ iterSemi val P k F ↔ f ∈ iterNaive val P k F :=
  iter_semi_naive hs k 0 F F (semiInv_init hs) fun _ => Iff.rfl

/-- a run that reports a fixpoint is one of the iterates (ties `semi_eq_naive` to the real loop) -/
theorem run_is_iterate (val : Nat → Int) (P : List Rule) (F S : List Fact) (fuel : Nat) :
    (inferNaive val P fuel F = some S → ∃ k, iterNaive val P k F = S) ∧
    (inferSemi val P fuel F = some S → ∃ k, iterSemi val P k F = S) :=
  ⟨fun h => (drive_iter h).imp fun _ hk => hk.2.1, fun h => (drive_iter h).imp fun _ hk => hk.2.1⟩

/-! ## exactness at a reported fixpoint -/

/-- **Naive strategy**: if `infer_new_facts_naive` reports a fixpoint, the store holds exactly the least model. -/
theorem lfp_exact_naive (val : Nat → Int) (P : List Rule) (F S : List Fact) (fuel : Nat)
    (hs : allSafe P = true) (h : inferNaive val P fuel F = some S) : ∀ f, f ∈ S ↔ Derivable val P F f :=
  run_naive_exact hs (run_of_drive h)

/-- **Semi-naive strategy**: if `infer_new_facts_semi_naive` reports a fixpoint, the store holds exactly the
    least model. -/
theorem lfp_exact_semi (val : Nat → Int) (P : List Rule) (F S : List Fact) (fuel : Nat)
    (hs : allSafe P = true) (h : inferSemi val P fuel F = some S) : ∀ f, f ∈ S ↔ Derivable val P F f :=
  run_semi_exact hs (run_of_drive h)

/-- **Provenance strategy with negation**: if NOT-rule heads feed no premise, the run yields exactly the
    stratified model. -/
theorem prov_stratified (val : Nat → Int) (P : List Rule) (F S : List Fact) (fuel : Nat)
    (hs : allSafe P = true) (hiso : negHeadsFeedNoPremise P = true) (h : provModel val P fuel F = some S) :
    ∀ f, f ∈ S ↔ Strat val P F f := by
  rw [provModel_eq] at h
  obtain ⟨m0, hm0, rfl⟩ := Option.map_eq_some_iff.1 h
  have hlow : ∀ f, f ∈ m0 ↔ Derivable val (posRules P) F f :=
    run_semi_exact (allSafe_posRules hs) (run_of_drive hm0)
  intro f
  rw [mem_append_negPass (allSafe_negRules hs)]
  constructor
  · rintro (hf | ⟨r, hr, σ, ⟨hp, hn⟩, hfl, c, hc, rfl⟩)
    · exact Strat.low ((hlow f).1 hf)
    · exact Strat.step σ (mem_negRules.1 hr).1 (fun p hp' => Strat.low ((hlow _).1 (hp p hp')))
        (fun n hn' hd => hn n hn' ((hlow _).2 hd)) hfl hc
  · intro hf
    induction hf with
    | low hd => exact .inl ((hlow _).2 hd)
    | @step r c σ hr _ hn hfl hc ih =>
      -- premises are only matched by lower-stratum facts
      have hprem : ∀ p ∈ r.premise, p.eval σ ∈ m0 := fun p hp =>
        (ih p hp).resolve_right (negHead_ne_premise hiso hr hp)
      by_cases hneg : r.negative = []
      · exact .inl (closed_of_exact hlow _ ⟨r, mem_posRules.2 ⟨hr, hneg⟩, σ, hprem, hfl, c, hc, rfl⟩)
      · exact .inr ⟨r, mem_negRules.2 ⟨hr, hneg⟩, σ,
          ⟨hprem, fun n hn' hm => hn n hn' ((hlow _).1 hm)⟩, hfl, c, hc, rfl⟩

/-- **Provenance strategy, negation-free programs**: exactly the least model. -/
theorem lfp_exact_prov (val : Nat → Int) (P : List Rule) (F S : List Fact) (fuel : Nat)
    (hs : allSafe P = true) (hpos : ∀ r ∈ P, r.negative = []) (h : provModel val P fuel F = some S) :
    ∀ f, f ∈ S ↔ Derivable val P F f := by
  -- without NOT-rules the isolation condition is empty
  have hneg : negRules P = [] := List.filter_eq_nil_iff.2 fun r hr => by simp [hpos r hr]
  have hiso : negHeadsFeedNoPremise P = true := by rw [negHeadsFeedNoPremise, hneg]; rfl
  intro f
  rw [prov_stratified val P F S fuel hs hiso h f, strat_iff_derivable hpos]

/-- **The executable specification is the stratified model** (what the driver prints as `S`), and on
    negation-free programs the textbook least model. -/
theorem spec_exact (val : Nat → Int) (P : List Rule) (F S : List Fact) (fuel : Nat)
    (hs : allSafe P = true) (h : specModel val P fuel F = some S) :
    (∀ f, f ∈ S ↔ Strat val P F f) ∧ ((∀ r ∈ P, r.negative = []) → ∀ f, f ∈ S ↔ Derivable val P F f) := by
  refine ⟨specModel_exact hs h, fun hpos f => ?_⟩
  rw [specModel_exact hs h f, strat_iff_derivable hpos]

/-! ## independence of strategy and order; second runs -/

/-- **The three complete strategies agree** on negation-free programs whenever they report fixpoints. -/
theorem strategies_agree (val : Nat → Int) (P : List Rule) (F S₁ S₂ S₃ : List Fact) (n₁ n₂ n₃ : Nat)
    (hs : allSafe P = true) (hpos : ∀ r ∈ P, r.negative = [])
    (h₁ : inferNaive val P n₁ F = some S₁) (h₂ : inferSemi val P n₂ F = some S₂)
    (h₃ : provModel val P n₃ F = some S₃) : ∀ f, (f ∈ S₁ ↔ f ∈ S₂) ∧ (f ∈ S₂ ↔ f ∈ S₃) := by
  intro f
  rw [lfp_exact_naive val P F S₁ n₁ hs h₁ f, lfp_exact_semi val P F S₂ n₂ hs h₂ f,
    lfp_exact_prov val P F S₃ n₃ hs hpos h₃ f]
  exact ⟨Iff.rfl, Iff.rfl⟩

/-- **Order independence**: programs and fact lists with the same members (in particular any permutation of the
    rules and of the facts, with or without duplicates) give the same fact set, under either strategy. -/
theorem order_independent (val : Nat → Int) (P P' : List Rule) (F F' S S' : List Fact) (n n' : Nat)
    (hs : allSafe P = true) (hP : ∀ r, r ∈ P ↔ r ∈ P') (hF : ∀ f, f ∈ F ↔ f ∈ F')
    (h : inferNaive val P n F = some S ∨ inferSemi val P n F = some S)
    (h' : inferNaive val P' n' F' = some S' ∨ inferSemi val P' n' F' = some S') : ∀ f, f ∈ S ↔ f ∈ S' := by
  have hs' : allSafe P' = true := allSafe_of_subset (fun r => (hP r).2) hs
  have e := h.elim (lfp_exact_naive val P F S n hs) (lfp_exact_semi val P F S n hs)
  have e' := h'.elim (lfp_exact_naive val P' F' S' n' hs') (lfp_exact_semi val P' F' S' n' hs')
  intro f
  rw [e f, e' f]
  exact ⟨derivable_congr (fun g => (hF g).1) (fun r => (hP r).1), derivable_congr (fun g => (hF g).2) (fun r => (hP r).2)⟩

/-- **Any iteration order of the round's `HashSet`**: in every run of the driver loop in which the facts of a
    round are appended in an arbitrary order (relation `Run`), a reported fixpoint is exactly the least model, for
    the naive and the semi-naive round; the executable `drive` is one such run (third conjunct, for `inferSemi`;
    `run_of_drive` for any round).  This is what justifies modelling `HashSet<Triple>` as a list. -/
theorem lfp_exact_any_order (val : Nat → Int) (P : List Rule) (F S : List Fact) (hs : allSafe P = true) :
    (Run (naiveRound val P) () F S → ∀ f, f ∈ S ↔ Derivable val P F f) ∧
    (Run (roundSemi val P) 0 F S → ∀ f, f ∈ S ↔ Derivable val P F f) ∧
    (∀ fuel, inferSemi val P fuel F = some S → Run (roundSemi val P) 0 F S) :=
  ⟨run_naive_exact hs, run_semi_exact hs, fun _ h => run_of_drive h⟩

/-- **A second run derives nothing**: started again on the result of a run that reported a fixpoint, either
    strategy (and the other one) reports a fixpoint at once with the store unchanged. -/
theorem second_run_empty (val : Nat → Int) (P : List Rule) (F S : List Fact) (n m : Nat) (hs : allSafe P = true)
    (h : inferNaive val P n F = some S ∨ inferSemi val P n F = some S) :
    inferNaive val P (m + 1) S = some S ∧ inferSemi val P (m + 1) S = some S := by
  have hc : Closed val P S :=
    closed_of_exact (h.elim (lfp_exact_naive val P F S n hs) (lfp_exact_semi val P F S n hs))
  exact ⟨drive_of_round_nil ((soundRound_naive hs).nil_of_closed hc ()) m,
    drive_of_round_nil ((soundRound_semi hs).nil_of_closed hc 0) m⟩

/-- **A second provenance run derives nothing**, with negation, when NOT-rule heads feed no premise. -/
theorem second_run_empty_prov (val : Nat → Int) (P : List Rule) (F S : List Fact) (n m : Nat) (hs : allSafe P = true)
    (hiso : negHeadsFeedNoPremise P = true) (h : provModel val P n F = some S) :
    provModel val P (m + 1) S = some S := by
  have hS := prov_stratified val P F S n hs hiso h
  have hcl : Closed val (posRules P) S := by
    rintro f ⟨r, hr, σ, hp, hfl, c, hc, rfl⟩
    obtain ⟨hr, hneg⟩ := mem_posRules.1 hr
    exact strat_closed_of_exact hS hr hp (fun x hx => by rw [hneg] at hx; cases hx) hfl hc
  have h2 : negPass val (negRules P) S = [] := List.eq_nil_iff_forall_not_mem.2 fun f hf => by
    obtain ⟨hnot, r, hr, σ, ⟨hp, hn⟩, hfl, c, hc, rfl⟩ := (mem_negPass_iff (allSafe_negRules hs)).1 hf
    exact hnot (strat_closed_of_exact hS (mem_negRules.1 hr).1 hp hn hfl hc)
  have h1 : inferSemi val (posRules P) (m + 1) S = some S :=
    drive_of_round_nil ((soundRound_semi (allSafe_posRules hs)).nil_of_closed hcl 0) m
  rw [provModel_eq, h1, Option.map_some, h2, List.append_nil]

/-- **A second parallel run derives nothing** inside the fragment the strategy implements. -/
theorem second_run_empty_par (val : Nat → Int) (P : List Rule) (F S : List Fact) (n m : Nat) (hs : allSafe P = true)
    (hok : allParOk P = true) (h : inferPar P n F = some S) : inferPar P (m + 1) S = some S := by
  have hc : Closed val P S := closed_of_exact (inferPar_exact hs hok h)
  rw [inferPar, parDrive_succ, if_pos (parRound_nil_of_closed hs hok hc fun _ ht => ht)]

/-! ## non-vacuity -/

/-- transitive closure over predicate 1: `x 1 y, y 1 z ⇒ x 1 z` -/
def tcRule : Rule := ⟨[⟨.var 0, .const 1, .var 1⟩, ⟨.var 1, .const 1, .var 2⟩], [], [], [⟨.var 0, .const 1, .var 2⟩]⟩
def chain : List Fact := [⟨0, 1, 2⟩, ⟨2, 1, 3⟩, ⟨3, 1, 4⟩]

/-- the hypotheses of the exactness theorems are satisfiable by a recursive program that derives facts -/
example : allSafe [tcRule] = true ∧ (inferNaive (fun _ => 0) [tcRule] 10 chain).isSome = true
    ∧ (inferSemi (fun _ => 0) [tcRule] 10 chain).isSome = true
    ∧ (provModel (fun _ => 0) [tcRule] 10 chain).isSome = true
    ∧ ((inferSemi (fun _ => 0) [tcRule] 10 chain).map List.length) = some 6 := by decide +kernel

/-- the loop invariant of the delta lemma holds initially -/
example : SemiInv (fun _ => 0) [tcRule] chain 0 chain := semiInv_init (by decide +kernel)

/-- a stratified program with a NOT-rule whose head feeds nothing: `x 1 y, NOT x 3 y ⇒ x 4 y` -/
def notRule : Rule := ⟨[⟨.var 0, .const 1, .var 1⟩], [⟨.var 0, .const 3, .var 1⟩], [], [⟨.var 0, .const 4, .var 1⟩]⟩
example : allSafe [notRule, tcRule] = true ∧ negHeadsFeedNoPremise [notRule, tcRule] = true
    ∧ provModel (fun _ => 0) [notRule, tcRule] 10 [⟨0, 1, 2⟩, ⟨2, 1, 0⟩, ⟨0, 3, 2⟩]
        = some [⟨0, 1, 2⟩, ⟨2, 1, 0⟩, ⟨0, 3, 2⟩, ⟨0, 1, 0⟩, ⟨2, 1, 2⟩, ⟨2, 4, 0⟩, ⟨0, 4, 0⟩, ⟨2, 4, 2⟩] := by decide +kernel

/-! ## the parallel strategy inside the fragment it implements -/

/-- **Parallel strategy, exactness on its fragment**: if every rule has one or two premises, constant
    predicates, no filters and no negation (`allParOk`, the complement of the recorded triggers), a reported
    fixpoint of `infer_new_facts_semi_naive_parallel` is exactly the least model. -/
theorem parallel_exact (val : Nat → Int) (P : List Rule) (F S : List Fact) (fuel : Nat) (hs : allSafe P = true)
    (hok : allParOk P = true) (h : inferPar P fuel F = some S) : ∀ f, f ∈ S ↔ Derivable val P F f :=
  inferPar_exact hs hok h

/-- non-vacuity: transitive closure lies in the fragment and the parallel run derives facts -/
example : allSafe [tcRule] = true ∧ allParOk [tcRule] = true ∧ ((inferPar [tcRule] 10 chain).map List.length) = some 6 := by
  decide +kernel

/-! ## termination -/

/-- **Termination**: for a safe program and a duplicate-free fact list whose facts and rule-head constants are ids
    below `k`, the naive, the semi-naive and the provenance strategy report a fixpoint within `k³ + 1` rounds (the
    store is a duplicate-free set of derivable triples over `k` ids and every non-final round adds at least one).
    The driver runs with fuel `k³ + 3`. -/
theorem terminates (val : Nat → Int) (P : List Rule) (F : List Fact) (k fuel : Nat) (hs : allSafe P = true)
    (hF : ∀ f ∈ F, InU k f) (hC : ConclBound k P) (hn : F.Nodup) (hfuel : k ^ 3 < fuel) :
    (∃ S, inferNaive val P fuel F = some S) ∧ (∃ S, inferSemi val P fuel F = some S) ∧
    (∃ S, provModel val P fuel F = some S) :=
  ⟨drive_terminates_of_sound (soundRound_naive hs) hs hF hC hn fuel hfuel (),
   drive_terminates_of_sound (soundRound_semi hs) hs hF hC hn fuel hfuel 0, provModel_terminates hs hF hC hn fuel hfuel⟩

/-- more fuel never changes a reported result -/
theorem fuel_irrelevant (val : Nat → Int) (P : List Rule) (F S : List Fact) (n m : Nat) :
    (inferNaive val P n F = some S → inferNaive val P (n + m) F = some S) ∧
    (inferSemi val P n F = some S → inferSemi val P (n + m) F = some S) :=
  ⟨fun h => drive_mono h m, fun h => drive_mono h m⟩

/-- **The property, total form** (negation-free safe programs): the naive, semi-naive and provenance strategies
    terminate and leave exactly the least model in the store. -/
theorem lfp_total (val : Nat → Int) (P : List Rule) (F : List Fact) (k fuel : Nat) (hs : allSafe P = true)
    (hpos : ∀ r ∈ P, r.negative = []) (hF : ∀ f ∈ F, InU k f) (hC : ConclBound k P) (hn : F.Nodup)
    (hfuel : k ^ 3 < fuel) :
    ∃ S₁ S₂ S₃, inferNaive val P fuel F = some S₁ ∧ inferSemi val P fuel F = some S₂ ∧
      provModel val P fuel F = some S₃ ∧
      ∀ f, (f ∈ S₁ ↔ Derivable val P F f) ∧ (f ∈ S₂ ↔ Derivable val P F f) ∧ (f ∈ S₃ ↔ Derivable val P F f) := by
  obtain ⟨⟨S₁, h₁⟩, ⟨S₂, h₂⟩, ⟨S₃, h₃⟩⟩ := terminates val P F k fuel hs hF hC hn hfuel
  exact ⟨S₁, S₂, S₃, h₁, h₂, h₃, fun f => ⟨lfp_exact_naive val P F S₁ fuel hs h₁ f,
    lfp_exact_semi val P F S₂ fuel hs h₂ f, lfp_exact_prov val P F S₃ fuel hs hpos h₃ f⟩⟩

/-- non-vacuity of the termination hypotheses -/
example : allSafe [tcRule] = true ∧ (∀ f ∈ chain, InU 5 f) ∧ ConclBound 5 [tcRule] ∧ chain.Nodup := by
  refine ⟨by decide +kernel, by intro f hf; simp [chain] at hf; rcases hf with rfl | rfl | rfl <;> simp [InU], ?_, by decide +kernel⟩
  intro r hr c hc
  simp only [List.mem_singleton] at hr; subst hr
  simp only [tcRule, List.mem_singleton] at hc; subst hc
  simp [termBound]

/-! ## recorded defects of the unchanged code (the model is faithful to them) -/

/-- the arms of `match rule.premise.len()` in `infer_new_facts_semi_naive_parallel`, re-extracted on every run -/
theorem parallel_arities : Kolibrie.Extracted.parallelArities = [1, 2] := by decide

def chain3Rule : Rule :=
  ⟨[⟨.var 0, .const 1, .var 1⟩, ⟨.var 1, .const 1, .var 2⟩, ⟨.var 2, .const 1, .var 3⟩], [], [], [⟨.var 0, .const 4, .var 3⟩]⟩
def swapAnyRule : Rule := ⟨[⟨.var 0, .var 9, .var 1⟩], [], [], [⟨.var 1, .var 9, .var 0⟩]⟩
def filterRule : Rule := ⟨[⟨.var 0, .const 1, .var 1⟩], [], [⟨1, .gt, .num 3⟩], [⟨.var 0, .const 4, .var 1⟩]⟩

/-- **The parallel strategy is incomplete** (`parallel_rule_has_3plus_premises`, `parallel_variable_predicate`):
    it reports a fixpoint that misses derivable facts, for a safe three-premise rule and for a safe rule with a
    variable predicate. -/
theorem parallel_incomplete :
    (∃ P F S f, allSafe P = true ∧ inferPar P 10 F = some S ∧ Derivable (fun _ => 0) P F f ∧ f ∉ S ∧
      ∃ r ∈ P, r.premise.length = 3) ∧
    (∃ P F S f, allSafe P = true ∧ inferPar P 10 F = some S ∧ Derivable (fun _ => 0) P F f ∧ f ∉ S ∧
      ∃ r ∈ P, ∃ p ∈ r.premise, p.p = Term.var 9) := by
  constructor
  · refine ⟨[chain3Rule], [⟨0, 1, 2⟩, ⟨2, 1, 3⟩, ⟨3, 1, 0⟩], [⟨0, 1, 2⟩, ⟨2, 1, 3⟩, ⟨3, 1, 0⟩], ⟨0, 4, 0⟩,
      by decide +kernel, by decide +kernel, ?_, by decide +kernel, chain3Rule, by simp, rfl⟩
    have h := lfp_exact_naive (fun _ => 0) [chain3Rule] [⟨0, 1, 2⟩, ⟨2, 1, 3⟩, ⟨3, 1, 0⟩]
      [⟨0, 1, 2⟩, ⟨2, 1, 3⟩, ⟨3, 1, 0⟩, ⟨2, 4, 2⟩, ⟨3, 4, 3⟩, ⟨0, 4, 0⟩] 10 (by decide +kernel) (by decide +kernel)
    exact (h _).1 (by decide +kernel)
  · refine ⟨[swapAnyRule], [⟨0, 1, 2⟩, ⟨2, 3, 3⟩], [⟨0, 1, 2⟩, ⟨2, 3, 3⟩], ⟨2, 1, 0⟩,
      by decide +kernel, by decide +kernel, ?_, by decide +kernel, swapAnyRule, by simp, _, List.mem_singleton.2 rfl, rfl⟩
    exact Derivable.step (r := swapAnyRule) (c := ⟨.var 1, .var 9, .var 0⟩)
      (fun v => if v = 0 then 0 else if v = 9 then 1 else 2) (by simp)
      (by intro p hp; simp [swapAnyRule] at hp; subst hp; exact Derivable.base (by decide +kernel)) rfl (by simp [swapAnyRule])

/-- **The parallel strategy ignores filters** (`parallel_filters`): it derives a fact that is not derivable. -/
theorem parallel_ignores_filters :
    ∃ val P F S f, allSafe P = true ∧ inferPar P 10 F = some S ∧ f ∈ S ∧ ¬ Derivable val P F f := by
  refine ⟨fun i => if i = 2 then 1 else if i = 3 then 5 else 0, [filterRule], [⟨0, 1, 2⟩, ⟨0, 1, 3⟩],
    [⟨0, 1, 2⟩, ⟨0, 1, 3⟩, ⟨0, 4, 2⟩, ⟨0, 4, 3⟩], ⟨0, 4, 2⟩, by decide +kernel, by decide +kernel, by decide +kernel, ?_⟩
  intro hd
  have h := lfp_exact_naive (fun i => if i = 2 then 1 else if i = 3 then 5 else 0) [filterRule]
    [⟨0, 1, 2⟩, ⟨0, 1, 3⟩] [⟨0, 1, 2⟩, ⟨0, 1, 3⟩, ⟨0, 4, 3⟩] 10 (by decide +kernel) (by decide +kernel)
  exact absurd ((h _).2 hd) (by decide +kernel)

/-- **Naive, semi-naive and parallel ignore `negative_premise`** (`negation_non_provenance_strategy`): on a
    stratified program they add a fact outside the stratified model, which the provenance strategy does not. -/
theorem negation_ignored_clash :
    ∃ P F f, allSafe P = true ∧ negHeadsFeedNoPremise P = true ∧ ¬ Strat (fun _ => 0) P F f ∧
      (∃ S, inferNaive (fun _ => 0) P 10 F = some S ∧ f ∈ S) ∧
      (∃ S, inferSemi (fun _ => 0) P 10 F = some S ∧ f ∈ S) ∧
      (∃ S, inferPar P 10 F = some S ∧ f ∈ S) ∧
      (∃ S, provModel (fun _ => 0) P 10 F = some S ∧ f ∉ S) := by
  refine ⟨[notRule], [⟨0, 1, 2⟩, ⟨2, 1, 0⟩, ⟨0, 3, 2⟩], ⟨0, 4, 2⟩, by decide +kernel, by decide +kernel, ?_,
    ⟨[⟨0, 1, 2⟩, ⟨2, 1, 0⟩, ⟨0, 3, 2⟩, ⟨0, 4, 2⟩, ⟨2, 4, 0⟩], by decide +kernel, by decide +kernel⟩,
    ⟨[⟨0, 1, 2⟩, ⟨2, 1, 0⟩, ⟨0, 3, 2⟩, ⟨0, 4, 2⟩, ⟨2, 4, 0⟩], by decide +kernel, by decide +kernel⟩,
    ⟨[⟨0, 1, 2⟩, ⟨2, 1, 0⟩, ⟨0, 3, 2⟩, ⟨0, 4, 2⟩, ⟨2, 4, 0⟩], by decide +kernel, by decide +kernel⟩,
    ⟨[⟨0, 1, 2⟩, ⟨2, 1, 0⟩, ⟨0, 3, 2⟩, ⟨2, 4, 0⟩], by decide +kernel, by decide +kernel⟩⟩
  intro hd
  have h := prov_stratified (fun _ => 0) [notRule] [⟨0, 1, 2⟩, ⟨2, 1, 0⟩, ⟨0, 3, 2⟩]
    [⟨0, 1, 2⟩, ⟨2, 1, 0⟩, ⟨0, 3, 2⟩, ⟨2, 4, 0⟩] 10 (by decide +kernel) (by decide +kernel) (by decide +kernel)
  exact absurd ((h _).2 hd) (by decide +kernel)

/-- **The provenance strategy runs NOT-rules in a single pass** (`negation_head_feeds_rule`): when a NOT-rule's
    head feeds another rule, the run misses a fact of the stratified model and a second run derives it. -/
theorem negation_single_pass_clash :
    ∃ P F S S' f, allSafe P = true ∧ negHeadsFeedNoPremise P = false ∧
      provModel (fun _ => 0) P 10 F = some S ∧ Strat (fun _ => 0) P F f ∧ f ∉ S ∧
      provModel (fun _ => 0) P 10 S = some S' ∧ f ∈ S' := by
  refine ⟨[notRule, ⟨[⟨.var 0, .const 4, .var 1⟩], [], [], [⟨.var 0, .const 5, .var 1⟩]⟩],
    [⟨0, 1, 2⟩, ⟨2, 1, 0⟩, ⟨0, 3, 2⟩], [⟨0, 1, 2⟩, ⟨2, 1, 0⟩, ⟨0, 3, 2⟩, ⟨2, 4, 0⟩],
    [⟨0, 1, 2⟩, ⟨2, 1, 0⟩, ⟨0, 3, 2⟩, ⟨2, 4, 0⟩, ⟨2, 5, 0⟩], ⟨2, 5, 0⟩, by decide +kernel, by decide +kernel, by decide +kernel, ?_, by decide +kernel, by decide +kernel, by decide +kernel⟩
  have h := spec_exact (fun _ => 0) [notRule, ⟨[⟨.var 0, .const 4, .var 1⟩], [], [], [⟨.var 0, .const 5, .var 1⟩]⟩]
    [⟨0, 1, 2⟩, ⟨2, 1, 0⟩, ⟨0, 3, 2⟩] [⟨0, 1, 2⟩, ⟨2, 1, 0⟩, ⟨0, 3, 2⟩, ⟨2, 4, 0⟩, ⟨2, 5, 0⟩] 10 (by decide +kernel) (by decide +kernel)
  exact (h.1 _).1 (by decide +kernel)

end Kolibrie.Props.C05
