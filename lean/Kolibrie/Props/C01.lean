import Kolibrie.Lemmas.LowerSound
/-!
# C01 — SELECT answers equal the SPARQL algebra over the stored dataset

Model: `Kolibrie/Model/Engine.lean` (executor, lowering, SELECT modifiers); specification:
`Kolibrie/Spec/Algebra.lean` (`sem`, three-valued filters, `Extend`).

Proved here (all rows / plans / databases):
* the two-valued filter evaluation of the implementation coincides with SPARQL's three-valued evaluation on
  every row that binds the filter's variables (`filter_agrees`) — the hypothesis is forced: `filter_clash`
  exhibits the deviation on an unbound variable (`!error = true`);
* BIND agrees with `Extend` when its arguments are bound and its target is fresh (`bind_agrees`), and
  deviates otherwise (`bind_clash`);
* group-level FILTER placement: the filters of a group, deferred by the lowering to the end of the group,
  select from the group's solutions exactly the solutions the algebra's group-scoped filters keep
  (`group_filters_agree`);
* ORDER BY only permutes (`order_is_permutation`, about `sortRows`, the sort of both `finalizeSelect` and
  `finalizeSub`); in `finalizeSub` (`finalize_subquery`) LIMIT returns a prefix of the unlimited result and DISTINCT
  without LIMIT leaves no duplicates (`limit_is_prefix`, `distinct_no_duplicates`).

* the whole SELECT pipeline is independent of the plan the optimizer picks (`select_plan_independent_partial`):
  for queries whose lowered WHERE clause is safe (`safeL`, decidable) and that use no aggregate / DISTINCT /
  ORDER BY / LIMIT, every assignment of join algorithms yields the same multiset of result rows, namely that of
  the nested-loop reference plan.

* **`where_clause_correct`**: for every WHERE clause of the fragment `okPat` (BGPs, nested groups with group-scoped
  FILTERs over certainly-bound variables, UNION, GRAPH <iri> / GRAPH ?g, VALUES/UNDEF, sub-selects with arbitrary
  solution modifiers over one triple pattern), every dataset, every dataset clause (FROM / FROM NAMED replacement)
  and every plan the optimizer may pick, the solutions the executor produces are exactly the multiset of the SPARQL
  algebra; `select_correct_partial` lifts this through `finalize_select` for queries without aggregate / DISTINCT /
  ORDER BY / LIMIT.

/- FULL: `∀ q` of the supported fragment, `runSelect db q algs` is a legal answer for `specSelect db q`.
   Not proved: BIND and sub-selects over more than one triple pattern in the WHERE clause (see `Props/C02.lean`; the
   modifiers of a sub-select see a sequence, and different join algorithms give different sequences), and the
   modifiers on permuted inputs — ORDER BY ties, LIMIT cuts, DISTINCT representatives and the first row of a GROUP are
   legal choices, so equality of tables is not the right statement there; the harness checks sortedness and the
   legal-cut property on the real output. -/
-/
namespace Kolibrie.Props.C01
open Kolibrie.Engine List

/-- on rows that bind every variable of the expression, `evaluate_filter_with_ids` is SPARQL evaluation -/
theorem filter_agrees (c : Cond) (row : Row) (h : boundIn row c.vars) :
    c.eval3 row = some (c.eval row) := eval3_eq_some_eval c row h

theorem keeps_eq_eval (c : Cond) (row : Row) (h : boundIn row c.vars) : keeps c row = c.eval row :=
  keeps_eq_eval_of_boundIn c row h

/-- the hypothesis of `keeps_eq_eval` is forced: negation over an unbound variable -/
theorem filter_clash : ∃ (c : Cond) (row : Row), keeps c row = false ∧ c.eval row = true :=
  ⟨.not (.cmp 0 "=" (.const "7")), [], by decide, by decide⟩

/-- BIND = `Extend` when the arguments are bound and the target is unbound -/
theorem bind_agrees (args : List Operand) (out : Var) (row : Row)
    (hargs : boundIn row (args.flatMap Operand.vars)) (hout : Row.get row out = none) :
    extendRow args out row = Row.insert row out (concatArgs args row) := by
  unfold extendRow
  dsimp only
  rw [if_pos]
  rw [hout, Option.isNone_none, Bool.and_true, all_eq_true]
  intro a ha
  cases a with
  | var v => exact hargs v (mem_flatMap.2 ⟨_, ha, mem_singleton.2 rfl⟩)
  | const c => rfl

/-- … and deviates on an unbound argument (the implementation concatenates the empty string) -/
theorem bind_clash : ∃ (args : List Operand) (out : Var) (row : Row),
    extendRow args out row ≠ Row.insert row out (concatArgs args row) :=
  ⟨[.var 0, .const "a"], 1, [], by decide⟩

/-- the executor's plan for the deferred filters of a group is a sequence of `Cond.eval` selections -/
theorem lowerFilters_exec (db : DB) (ctx : Ctx) (inc : List Row) (algs : List JoinAlg) (plan : Logical)
    (elems : List Pat) :
    exec db (implement algs (lowerFilters plan elems)).1 ctx inc =
      implFilters (exec db (implement algs plan).1 ctx inc) elems :=
  lowerFilters_exec_of (fun L => (implement algs L).1) (fun _ _ => rfl) db ctx inc plan elems

/-- **group-scoped FILTER**: on solutions that bind the filters' variables the deferred selections keep
    exactly what the algebra's filters keep -/
theorem group_filters_agree (rows : List Row) (elems : List Pat)
    (h : ∀ c, Pat.filter c ∈ elems → ∀ r ∈ rows, boundIn r c.vars) :
    implFilters rows elems = semFilters rows elems := implFilters_eq_semFilters rows elems h

/-! ## solution modifiers -/

/-- ORDER BY only reorders: the multiset of solutions is unchanged -/
theorem order_is_permutation (order : List (Var × Bool)) (rows : List Row) : sortRows order rows ~ rows :=
  sortRows_perm order rows

/-- LIMIT returns a prefix of the (ordered, de-duplicated) sequence: a legal cut -/
theorem limit_is_prefix (spec : Spec) (rows : List Row) (n : Nat) (h : spec.limit = some n) :
    finalizeSub spec rows <+: finalizeSub { spec with limit := none } rows := by
  unfold finalizeSub
  simp only [h]
  exact List.take_prefix _ _

/-- DISTINCT leaves no duplicate solution -/
theorem distinct_no_duplicates (spec : Spec) (rows : List Row) (h : spec.distinct = true) (hl : spec.limit = none) :
    (finalizeSub spec rows).Nodup := by
  unfold finalizeSub
  simp only [h, hl, if_true]
  exact nodup_eraseDups _

/-- without modifiers the answer table is a row-wise image of the solutions: permuted solutions give a
    permuted table -/
theorem finalize_plain_perm (q : Select) (hp : hasAgg (q.spec.proj.getD []) = false)
    (hd : q.spec.distinct = false) (ho : q.spec.order = []) (hl : q.spec.limit = none)
    {a b : List Row} (h : a ~ b) : finalizeSelect q a ~ finalizeSelect q b := by
  unfold finalizeSelect
  simp only [hp, hd, ho, hl, Bool.false_eq_true, if_false, isEmpty_nil, if_true]
  exact h.map _

/-- **SELECT answers do not depend on the plan** (partial: plain projection queries over safe WHERE clauses) -/
theorem select_plan_independent_partial (db : DB) (q : Select)
    (hs : safeL (lower .dflt q.where_) = true)
    (hp : hasAgg (q.spec.proj.getD []) = false)
    (hd : q.spec.distinct = false) (ho : q.spec.order = []) (hl : q.spec.limit = none)
    (a b : List JoinAlg) : runSelect db q a ~ runSelect db q b := by
  unfold runSelect
  apply finalize_plain_perm q hp hd ho hl
  exact impl_irrelevant db hs (impl_implement _ a) (impl_implement _ b) _ (datasetView_wf db q none) _ allWF_unit

/-- **the WHERE clause is evaluated correctly under every plan** (fragment `okPat`) -/
theorem where_clause_correct (db : DB) (q : Select) (h : okPat q.where_ = true) (algs : List JoinAlg) :
    exec db (implement algs (lower .dflt q.where_)).1 ⟨datasetView db q, none⟩ [[]] ~
      sem db ⟨datasetView db q, none⟩ q.where_ :=
  plans_compute_algebra db q.where_ h algs _ (datasetView_wf db q none)

/-- SELECT answers equal the algebra's, as multisets of rows, for plain projection queries over the fragment -/
theorem select_correct_partial (db : DB) (q : Select) (h : okPat q.where_ = true)
    (hp : hasAgg (q.spec.proj.getD []) = false)
    (hd : q.spec.distinct = false) (ho : q.spec.order = []) (hl : q.spec.limit = none)
    (algs : List JoinAlg) : runSelect db q algs ~ specSelect db q := by
  unfold runSelect specSelect
  exact finalize_plain_perm q hp hd ho hl (where_clause_correct db q h algs)

/-! ## sub-selects -/

/-- **a sub-select under `GRAPH ?g`** (any projection, aggregates, GROUP BY, ORDER BY, DISTINCT, LIMIT over one triple
    pattern) is evaluated, under every plan, to the algebra's solutions: one evaluation of the sub-select per visible
    named graph, against that graph only -/
theorem subselect_under_graph_var_correct (db : DB) (q : Select) (v : Var) (t : Term × Term × Term) (spec : Spec)
    (hq : q.where_ = .graph (.var v) (.group [.sub (.bgp [t]) spec])) (algs : List JoinAlg) :
    exec db (implement algs (lower .dflt q.where_)).1 ⟨datasetView db q, none⟩ [[]] ~
      sem db ⟨datasetView db q, none⟩ q.where_ :=
  where_clause_correct db q (by rw [hq]; rfl) algs

/-- the sub-select case of the fragment is inhabited (also joined with other elements, inside UNION, …) -/
example (t u : Term × Term × Term) (spec : Spec) :
    okPat (.group [.bgp [u], .graph (.var 7) (.group [.sub (.bgp [t]) spec]), .union [.sub (.bgp [t]) spec, .unit]]) = true := rfl

/-- the repaired defect (`fix:` dd38f08), as a witness: with the variable graph scope carried onto the sub-select's scan
    (the plan the lowering produced before that repair) every named graph reports the sub-select's rows of *all*
    graphs - two rows where the algebra has one - whereas the plan of the current lowering returns exactly the
    algebra's answer -/
theorem carried_graph_scope_clash :
    let db : DB := ⟨[⟨"s", "p", "o", some "g1"⟩], ["g1", "g2"]⟩
    let ctx : Ctx := ⟨View.fromDb db, none⟩
    let spec : Spec := ⟨some [.var 1], false, [], [], none⟩
    let pat : Pat := .graph (.var 0) (.sub (.bgp [(.var 1, .const "p", .var 2)]) spec)
    let oldPlan : Plan := .graph (.subquery (.scan ⟨.var 1, .const "p", .var 2, .var 0⟩) spec) (.var 0)
    (exec db oldPlan ctx [[]]).length = 2 ∧ (sem db ctx pat).length = 1 ∧
      exec db (implBind (lower .dflt pat)) ctx [[]] = sem db ctx pat := by
  decide

/-! ## dataset scoping -/

/-- FROM <g1> FROM <g2> …: the query default graph is the *merge* of the source graphs — a triple that occurs in
    several of them is listed once (`defaultTriples` is what `scanDefault` scans: `scanDefault_eq` in `Lemmas/Scan.lean`) -/
theorem default_graph_merge_dedup (db : DB) (view : View) : (defaultTriples db view).Nodup :=
  nodup_eraseDups _

/-- `GRAPH ?g { }` binds `?g` to every visible named graph that exists, empty graphs included -/
theorem graph_var_includes_empty (db : DB) (ctx : Ctx) (v : Var) :
    sem db ctx (.graph (.var v) .unit) = (ctx.view.named.filter (fun g => db.graphExists g)).map (fun g => [(v, g)]) := by
  simp only [sem]
  induction (ctx.view.named.filter (fun g => db.graphExists g)) with
  | nil => rfl
  | cons g gs ih =>
    simp only [flatMap_cons, map_cons, ih]
    simp [nlJoin, mergeRows_nil_right]

/-- with `FROM` but no `FROM NAMED` no named graph is visible: every GRAPH pattern is empty -/
theorem named_invisible_without_from_named (db : DB) (q : Select) (hf : q.from_ ≠ []) (hn : q.fromNamed = [])
    (name : GTerm) (hname : name ≠ .dflt) (p : Pat) :
    sem db ⟨datasetView db q, none⟩ (.graph name p) = [] := by
  have hv : (datasetView db q).named = [] := by
    unfold datasetView
    have : (q.from_.isEmpty && q.fromNamed.isEmpty) = false := by
      cases hq : q.from_ with
      | nil => exact absurd hq hf
      | cons _ _ => simp
    simp [View.mk', hn, hf]
  cases name with
  | dflt => exact absurd rfl hname
  | named g => simp [sem, visibleNamed, hv]
  | var v => simp [sem, hv]

/-! non-vacuity -/
example : boundIn [(0, "5"), (1, "x")] (Cond.and (.cmp 0 ">" (.const "3")) (.not (.cmp 1 "=" (.var 0)))).vars := by
  intro v hv; simp [Cond.vars] at hv; rcases hv with rfl | rfl | rfl <;> decide
example : sortRows [(0, false)] [[(0, "10")], [(0, "9")], [(0, "-2")]] = [[(0, "-2")], [(0, "9")], [(0, "10")]] := by decide

end Kolibrie.Props.C01
