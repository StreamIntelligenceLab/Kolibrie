import Kolibrie.Lemmas.Dict
/-!
# C15 — term identifiers are a stable bijection, also across database union

Property theorems only (helper lemmas: `Kolibrie/Lemmas/Dict.lean`).  Model: `Kolibrie/Model/Dict.lean`
(`Dictionary`, `QuotedTripleStore`, `decode_term`, `reencode_term_id`, `SparqlDatabase::union`, the API calls that
populate a database).  Specification: `Kolibrie/Spec/TermIds.lean` (lexical denotation `Den`, first-appearance
dictionary `Abs`, lexical datasets and their set union).

Quantifiers: sections 1–2 hold for **every history** of encode / decode / quoted-encode calls (lists of any
length, any strings, any counter start); sections 3–4 for **every pair of databases** satisfying `DBInv`, which
`populated_inv` shows for every database populated through the API.  No size or depth bound occurs anywhere.
-/
namespace Kolibrie.Props.C15
open Kolibrie.Dict Kolibrie.Extracted

/-! ## 1. one dictionary, any history of `encode` calls -/

/-- **Invariant, reachable by any history**: the two maps are mutually inverse, keys are unique, every id is
    below the counter and below the quoted range — whatever the counter started at. -/
theorem dict_inv (n : Nat) (ss : List String) : DInv (encRun ⟨[], [], n⟩ ss) :=
  (encRun_spec _ (DInv.start n) ss).1

/-- **Identifiers handed out earlier never change**, however many terms arrive afterwards. -/
theorem encode_stable (d : Dict) (h : DInv d) (ss : List String) :
    (∀ t j, d.s2i.lookup t = some j → (encRun d ss).s2i.lookup t = some j) ∧
    (∀ j t, d.decode j = some t → (encRun d ss).decode j = some t) :=
  (encRun_spec d h ss).2

/-- **A term always encodes to the same identifier**: encoding it again — immediately or after any further
    history — returns the same id and changes nothing. -/
theorem encode_idem (d d' : Dict) (s : String) (i : Nat) (h : DInv d) (he : d.encode s = .ok (d', i))
    (ss : List String) : (encRun d' ss).encode s = .ok (encRun d' ss, i) := by
  obtain ⟨h', A, _⟩ := encode_spec h he
  have := (encRun_spec d' h' ss).2.1 s i A.fwd
  simp [Dict.encode, this]

/-- **Decoding returns the original term**, also after any further history. -/
theorem decode_encode (d d' : Dict) (s : String) (i : Nat) (h : DInv d) (he : d.encode s = .ok (d', i))
    (ss : List String) : (encRun d' ss).decode i = some s := by
  obtain ⟨h', A, _⟩ := encode_spec h he
  exact (encRun_spec d' h' ss).2.2 i s A.bwd

/-- **Distinct terms never share an identifier** along one history: if `s` was given `i` and, after any further
    history, `t` is given `i` too, then `s = t`. -/
theorem encode_inj (d d1 d2 : Dict) (s t : String) (i : Nat) (h : DInv d) (ss : List String)
    (he : d.encode s = .ok (d1, i)) (he' : (encRun d1 ss).encode t = .ok (d2, i)) : s = t := by
  obtain ⟨h1, A, _⟩ := encode_spec h he
  obtain ⟨hr, keep, _⟩ := encRun_spec d1 h1 ss
  obtain ⟨h2, A', _⟩ := encode_spec hr he'
  exact h2.bi.inj (A'.keepF s i (keep s i A.fwd)) A'.fwd

/-- plain ids stay below the quoted range: `encode` never returns an id with the quoted bit (the `assert!`) -/
theorem encode_range (d d' : Dict) (s : String) (i : Nat) (h : DInv d) (he : d.encode s = .ok (d', i)) :
    i < quotedBit ∧ isQuoted i = false := by
  have hlt := (encode_spec h he).2.2
  exact ⟨hlt, isQuoted_lt i hlt⟩

/-- **Every mixed history** of `encode` / `decode` / quoted `encode` / quoted `decode` calls returns exactly what
    the first-appearance specification returns (identifier = position of first appearance, `panic` exactly when
    the range is used up) — for any counter starts `n`, `m`. -/
theorem seq_refines (n m : Nat) (ops : List SOp) :
    mRun (⟨[], [], n⟩, ⟨[], [], m⟩) ops = aRun ⟨⟨n, []⟩, ⟨m, []⟩⟩ ops :=
  mRun_eq_aRun ⟨FRel.empty n, FRel.empty m⟩ ops

/-! ## 2. one quoted-triple store, any history of `encode` calls -/

/-- **Invariant, reachable by any history** (from any start of the counter inside the quoted range). -/
theorem q_inv (n : Nat) (h1 : quotedBit ≤ n) (h2 : n ≤ u32Max) (cs : List Comp) : QInv (qRun ⟨[], [], n⟩ cs) :=
  (qRun_spec _ (QInv.start n h1 h2) cs).1

/-- quoted ids are in the quoted range, are `u32`s, and `is_quoted_triple_id` (the bit test) recognises them -/
theorem qencode_range (q q' : QStore) (c : Comp) (i : Nat) (h : QInv q) (he : q.encode c = .ok (q', i)) :
    quotedBit ≤ i ∧ i < u32Max ∧ isQuoted i = true := by
  obtain ⟨h', A⟩ := qencode_spec h he
  have r := h'.bi.range i c A.bwd
  exact ⟨r.1, Nat.lt_of_lt_of_le r.2 h'.hi, (h'.isQuoted A.bwd).1⟩

/-- **Quoted triples are identified structurally**: two triples get the same identifier iff their components are
    equal — whatever happens between the two calls; and the identifier decodes to the components. -/
theorem qencode_structural (q q1 q2 : QStore) (c c' : Comp) (i i' : Nat) (h : QInv q) (cs : List Comp)
    (he : q.encode c = .ok (q1, i)) (he' : (qRun q1 cs).encode c' = .ok (q2, i')) :
    (i = i' ↔ c = c') ∧ q2.decode i = some c ∧ q2.decode i' = some c' := by
  obtain ⟨h1, A⟩ := qencode_spec h he
  obtain ⟨hr, keepF, keepB⟩ := qRun_spec q1 h1 cs
  obtain ⟨h2, A'⟩ := qencode_spec hr he'
  have hl1 := A'.keepF c i (keepF c i A.fwd)
  refine ⟨⟨fun e => ?_, fun e => ?_⟩, A'.keepB i c (keepB i c A.bwd), A'.bwd⟩
  · subst e; exact h2.bi.inj hl1 A'.fwd
  · subst e; exact Option.some.inj (hl1.symm.trans A'.fwd)

/-- **The two ranges are disjoint**: an id the dictionary decodes and an id the quoted store decodes are never the
    same number, and the bit test tells them apart.  No hypothesis on the counters: the `assert!` in
    `Dictionary::encode` is part of the model. -/
theorem ranges_disjoint (d : Dict) (q : QStore) (hd : DInv d) (hq : QInv q) (i j : Nat) (s : String) (c : Comp)
    (h1 : d.decode i = some s) (h2 : q.decode j = some c) :
    i ≠ j ∧ isQuoted i = false ∧ isQuoted j = true := by
  have a := hd.below i s h1
  exact ⟨Nat.ne_of_lt (Nat.lt_of_lt_of_le a (hq.bi.range j c h2).1), isQuoted_lt i a, (hq.isQuoted h2).1⟩

/-- the bit test of the source is the range test `quotedBit ≤ id` on `u32` (for the extracted constant) -/
theorem bit_test_is_range_test (id : Nat) (h : id < 2 ^ 32) : isQuoted id = true ↔ quotedBit ≤ id :=
  isQuoted_iff id h

/-- **Nesting is well-founded** after any history in which quoted components refer to already allocated quoted
    triples (`WfHist`; this is how `encode_term_star` uses the store). -/
theorem nesting_wf (n : Nat) (h1 : quotedBit ≤ n) (h2 : n ≤ u32Max) (cs : List Comp) (hh : WfHist ⟨[], [], n⟩ cs) :
    QWf (qRun ⟨[], [], n⟩ cs) :=
  qRun_wf _ (QInv.start n h1 h2) nofun cs hh

/-- the hypothesis `WfHist` is forced: the raw `QuotedTripleStore::encode` accepts a component id that is not
    allocated yet, and the very first call can thereby create a triple that contains itself -/
theorem forward_ref_clash : ∃ cs : List Comp, ¬ WfHist QStore.empty cs ∧ ¬ QWf (qRun QStore.empty cs) := by
  refine ⟨[(quotedBit, 0, 0)], ?_, ?_⟩
  · intro h; have := h.1.1 (by decide); exact absurd this (by decide)
  · intro h
    exact Nat.lt_irrefl _ ((h quotedBit quotedBit 0 0 (by decide)).1 (by decide))

/-! ## 3. identifiers ↔ terms -/

/-- an identifier denotes at most one term -/
theorem den_functional (d : Dict) (q : QStore) (id : Nat) (τ τ' : LTerm) (h : Den d q id τ) (h' : Den d q id τ') :
    τ = τ' := h.functional h'

/-- **a term has at most one identifier** (plain or quoted, any nesting depth) -/
theorem den_injective (d : Dict) (q : QStore) (hd : DInv d) (hq : QInv q) (id id' : Nat) (τ : LTerm)
    (h : Den d q id τ) (h' : Den d q id' τ) : id = id' := h.inj hd hq h'

/-- `decode_term` / `decode_any` compute the denotation (in a well-founded store the recursion budget suffices) -/
theorem decode_term_spec (d : Dict) (q : QStore) (hw : QWf q) (id : Nat) (τ : LTerm) :
    decodeTerm d q id = .ok (some τ) ↔ Den d q id τ := decodeTerm_iff d q hw id τ

/-- `encode_term_star` returns an identifier that `decode_any` maps back to the term, for every term tree -/
theorem encode_star_round_trip (db : DB) (h : DBInv db) (τ : LTerm) (d' : Dict) (q' : QStore) (i : Nat)
    (he : encodeStar db.d db.q τ = .ok (d', q', i)) : decodeTerm d' q' i = .ok (some τ) := by
  obtain ⟨T, _, D⟩ := encodeStar_spec he (h.tinv [])
  exact (decodeTerm_iff d' q' T.wf i τ).2 D

/-- **every database populated through the API satisfies the database invariant** (from any start of the plain
    counter), provided raw id-level calls only mention identifiers that decode (`OpsOK`; the string- and
    term-level calls `add_triple_parts`, `add_tagged_triple`, `add_quad_parts`, `encode_term_star`, `encode` need
    nothing) -/
theorem populated_inv (n : Nat) (ops : List BOp) (db : DB) (ok : OpsOK { DB.empty with d := ⟨[], [], n⟩ } ops)
    (hb : DB.build ops { DB.empty with d := ⟨[], [], n⟩ } = .ok db) : DBInv db :=
  build_inv (DBInv.start n) ok hb

/-! ## 4. union -/

/-- **Identifiers of `self` keep their meaning in the union** (the merged dictionary starts as a copy of `self`'s
    and only grows). -/
theorem union_keeps_ids (a b u : DB) (ha : DBInv a) (h : union a b = .ok u) (x : Nat) (τ : LTerm)
    (hx : a.den x = some τ) : u.den x = some τ := by
  have F := union_facts ha h
  exact (den_iff u F.tinv.wf x τ).2 (F.keepA x τ ((den_iff a ha.wf x τ).1 hx))

/-- **The union of two independently built databases denotes exactly the set union of their lexical datasets**:
    terms (dictionary strings and quoted triples, referenced or not), named-graph identities (empty graphs
    included), quads, and probability seeds (for a triple seeded in both, `other`'s probability stands) — although
    the two databases use the same numbers for different terms. -/
theorem union_denotes (a b u : DB) (ha : DBInv a) (hb : DBInv b) (h : union a b = .ok u) :
    LDB.SetEq u.lex (lunion a.lex b.lex) := by
  have F := union_facts ha h
  have wu : QWf u.q := F.tinv.wf
  obtain ⟨gs, mgs, qs, mqs, hgraphs, hquads⟩ := F.graphs
  obtain ⟨ss, mss, hseeds⟩ := F.seeds
  have mgs := sameIds_iff.1 mgs
  -- an identifier of `a` is its own translation, so `decode_any` keeps its answer on everything `a` holds
  have self : ∀ x, HasDen a x → SameId a.d a.q ⟨u.d, u.q, []⟩ x x :=
    fun x => Exists.imp fun τ hτ => ⟨hτ, F.keepA x τ hτ⟩
  have keep : ∀ x, HasDen a x → u.den x = a.den x := fun x hx => (self x hx).den_eq ha.wf wu
  have keepT : ∀ k v, (k, v) ∈ a.seeds → u.denTriple k = a.denTriple k := fun k v he =>
    have c := ha.cseeds (k, v) he
    SameTriple.den_eq ha.wf wu ⟨self _ c.1, self _ c.2.1, self _ c.2.2⟩
  have keepQ : ∀ qd ∈ a.quads, u.denQuad qd = a.denQuad qd := by
    intro qd hqd
    obtain ⟨h1, h2, h3, h4⟩ := ha.cquads qd hqd
    refine SameQuad.den_eq ha.wf wu ⟨self _ h1, self _ h2, self _ h3, ?_⟩
    cases hg : qd.g with
    | none => trivial
    | some g => exact self g (h4 g hg)
  refine ⟨?_, ?_, ?_, ?_⟩
  · -- terms
    refine mem_map_iff_of_cover (fun x hx => ?_) (fun x hx => ?_) (fun i hi => ?_)
    · obtain ⟨τ, hτ⟩ := F.tinv.mem_ids.1 hx
      rcases F.nojunk x τ hτ with ha' | ⟨i, hi⟩
      · exact .inl ⟨x, mem_ids_of_den ha', den_eq_of_den ha.wf wu ha' hτ⟩
      · exact .inr ⟨i, mem_ids_of_den hi, den_eq_of_den hb.wf wu hi hτ⟩
    · obtain ⟨τ, hτ⟩ := (ha.tinv []).mem_ids.1 hx
      exact ⟨x, mem_ids_of_den (F.keepA x τ hτ), keep x ⟨τ, hτ⟩⟩
    · obtain ⟨τ, hτ⟩ := (hb.tinv []).mem_ids.1 hi
      obtain ⟨x, hx⟩ := F.allB i τ hτ
      exact ⟨x, mem_ids_of_den hx, den_eq_of_den wu hb.wf hx hτ⟩
  · -- graph identities
    refine mem_map_iff_of_cover (fun g hg => ?_) (fun g hg => ?_) (fun i hi => ?_)
    · rcases (hgraphs g).1 hg with h1 | ⟨qd, hqd, hqg⟩ | h1 | ⟨qd', hqd', hqg⟩
      · exact .inl ⟨g, h1, (keep g (ha.cg g h1)).symm⟩
      · have := ha.gq qd hqd g hqg
        exact .inl ⟨g, this, (keep g (ha.cg g this)).symm⟩
      · obtain ⟨i, hi, hs⟩ := mgs.bwd g h1
        exact .inr ⟨i, hi, (hs.den_eq hb.wf wu).symm⟩
      · obtain ⟨qd, hqd, _, _, _, h4⟩ := mqs.bwd qd' hqd'
        cases hg0 : qd.g with
        | none => simp [hg0, hqg] at h4
        | some i =>
          simp only [hg0, hqg] at h4
          exact .inr ⟨i, hb.gq qd hqd i hg0, (h4.den_eq hb.wf wu).symm⟩
    · exact ⟨g, (hgraphs g).2 (.inl hg), keep g (ha.cg g hg)⟩
    · obtain ⟨x, hx, hs⟩ := mgs.fwd i hi
      exact ⟨x, (hgraphs x).2 (.inr (.inr (.inl hx))), hs.den_eq hb.wf wu⟩
  · -- quads
    refine mem_map_iff_of_cover (fun qd hqd => ?_) (fun qd hqd => ?_) (fun qd0 hqd0 => ?_)
    · rcases (hquads qd).1 hqd with h1 | h1
      · exact .inl ⟨qd, h1, (keepQ qd h1).symm⟩
      · obtain ⟨qd0, hqd0, hs⟩ := mqs.bwd qd h1
        exact .inr ⟨qd0, hqd0, (hs.den_eq hb.wf wu).symm⟩
    · exact ⟨qd, (hquads qd).2 (.inl hqd), keepQ qd hqd⟩
    · obtain ⟨qd, hqd, hs⟩ := mqs.fwd qd0 hqd0
      exact ⟨qd, (hquads qd).2 (.inr hqd), hs.den_eq hb.wf wu⟩
  · -- probability seeds
    -- translated seed keys are pairwise different: keys that translate alike decode alike in `b`
    have hss : (keys ss).Nodup := by
      unfold keys
      refine All2.nodup_keys (fun e : Seed => e.1) (fun e : Seed => e.1) (fun e e' k k' hs hs' (ek : k.1 = k'.1) => ?_)
        mss hb.seedKeys
      exact denTriple_inj hb.d hb.q hb.wf ⟨hs.1.1.src, hs.1.2.1.src, hs.1.2.2.src⟩
        ((hs.1.den_eq hb.wf wu).symm.trans (ek ▸ hs'.1.den_eq hb.wf wu))
    intro ⟨lk, v⟩
    rw [mem_lexSeeds, mem_lunion_lexSeeds, hseeds]
    refine mem_foldl_put_rekeyed hss (mss.imp fun _ _ hs => ⟨hs.1.den_eq hb.wf wu, hs.2⟩) keepT
      (fun k' w k _ hk' _ e => ?_) lk v
    -- a translated key and a key of `a` that decode alike in `u` are one key
    obtain ⟨_, _, hs, _⟩ := mss.bwd (k', w) hk'
    exact denTriple_inj F.tinv.d F.tinv.q wu ⟨hs.1.tgt, hs.2.1.tgt, hs.2.2.tgt⟩ e

/-- the union is again a well-formed database (so unions can be chained) -/
theorem union_well_formed (a b u : DB) (ha : DBInv a) (h : union a b = .ok u) : DBInv u := union_inv ha h

/-- **`reencode_term_id` preserves lexical denotation** through the translation cache: the returned target id
    denotes what `id` denotes in the source, earlier target ids keep their meaning, nothing but source terms is
    added, the cache stays correct -/
theorem reencode_denotes (sd : Dict) (sq : QStore) (id : Nat) (t t' : Tgt) (j : Nat)
    (h : reencode sd sq id t = .ok (t', j)) (hT : TInv t) (hC : CacheOK sd sq t) :
    Step sd sq t t' ∧ ∃ τ, Den sd sq id τ ∧ Den t'.d t'.q j τ := (reencode_ends id t).of_ok h hT hC

/- FULL: union_total
   theorem union_total (a b : DB) (ha : DBInv a) (hb : DBInv b)
       (hp : newPlain a b = 0 ∨ a.d.next + newPlain a b ≤ quotedBit)
       (hq : newQuoted a b = 0 ∨ a.q.next + newQuoted a b ≤ u32Max) : ∃ u, union a b = .ok u
   (and conversely: if either capacity condition fails, `union a b = .error .panic`), where `newPlain` /
   `newQuoted` count the terms of `b` that `a` has no identifier for.  This is what the driver's specification
   prints (`panic` exactly when `other` has an identifier that does not decode or a range is exhausted).
   Proved below: a failure is never the model's own `fuel` outcome, and — via `union_denotes` — every success is
   correct.  Missing: the counting argument that the number of allocations equals the number of new terms (needs
   a pigeonhole over the translation cache).  The exact panic condition is covered by the correspondence run
   (streams `union_self_ids_near_exhaustion`, `b_dangling`). -/

/-- the model's recursion budget is never the reason `union` fails: every failure is an implementation panic
    (an identifier of `other` that does not decode, or an exhausted id range) -/
theorem union_total_partial (a b : DB) (hb : DBInv b) (e : Err) (h : union a b = .error e) : e = .panic :=
  union_err hb.wf h

/-- the hypotheses `DBInv` of the union theorems follow from the two map invariants, the **decidable** checks
    that the driver evaluates on every request and reports in its `H` section (`forward_ref` = `¬ q.wf`,
    `dangling_ids` = `¬ closed`), and two facts about how a database is stored: the graph of every quad is a
    recorded graph identity (`hgq`, as `insert_quad` ensures) and seed keys are unique (`hsk`, a `HashMap`) -/
theorem checks_imply_inv (db : DB) (hd : DInv db.d) (hq : QInv db.q) (hwf : db.q.wf = true) (hcl : db.closed = true)
    (hgq : ∀ qd ∈ db.quads, ∀ g, qd.g = some g → g ∈ db.graphs) (hsk : (keys db.seeds).Nodup) : DBInv db :=
  dbInv_of_checks db hd hq hwf hcl hgq hsk

/-! ## 5. `Dictionary::merge` (not used by `union`; recorded defect, see C13) -/

/-- `merge` breaks the bijection when the two dictionaries use one number for different strings: witness
    `{a ↦ 0}.merge({b ↦ 0})`, where `decode(encode "b") = "a"` and two strings share id `0` -/
theorem merge_clash : ∃ a b : Dict, DInv a ∧ DInv b ∧ idsClash a b = true ∧
    (a.merge b).s2i.lookup "a" = some 0 ∧ (a.merge b).s2i.lookup "b" = some 0 ∧ (a.merge b).decode 0 = some "a" :=
  ⟨encRun Dict.empty ["a"], encRun Dict.empty ["b"], (encRun_spec _ (DInv.start 0) _).1, (encRun_spec _ (DInv.start 0) _).1,
   by decide +kernel, by decide +kernel, by decide +kernel, by decide +kernel⟩

/-! ## non-vacuity -/

/-- two databases built independently: both use id 0, for different terms; `A` also holds a quoted triple -/
def exA : Except Err DB :=
  DB.build [.triple "a" "p" "b", .quadParts (.quoted (.plain "a") (.plain "p") (.plain "b")) (.plain "q") (.plain "c") "g",
            .tagged "a" "p" "b" 250, .create 0] DB.empty
def exB : Except Err DB :=
  DB.build [.tagged "b" "p" "a" 750, .star (.quoted (.quoted (.plain "a") (.plain "p") (.plain "b")) (.plain "q") (.plain "z")),
            .quad ⟨0, 1, 2147483649, some 2⟩] DB.empty

-- both builds succeed, their ids clash, the union succeeds, `A`'s id 0 keeps its meaning and `B`'s term "b"
-- (id 0 in `B`) is found under another id in the union
example : (exA.toOption.map fun a => a.den 0) = some (some (.plain "a")) := by decide +kernel
example : (exB.toOption.map fun b => b.den 0) = some (some (.plain "b")) := by decide +kernel
example : (exA.toOption.bind fun a => exB.toOption.bind fun b => (union a b).toOption.map fun u => (u.den 0, u.den 2, u.quads.length, u.seeds.length))
    = some (some (.plain "a"), some (.plain "b"), 4, 2) := by decide +kernel
-- the hypothesis of `nesting_wf` can be met, and both databases pass the checks of `checks_imply_inv`
example : WfHist QStore.empty [(0, 1, 2)] :=
  ⟨⟨by decide, by decide, by decide⟩, trivial⟩
example : (exA.toOption.map fun a => (a.q.wf, a.closed)) = some (true, true) := by decide +kernel
example : (exB.toOption.map fun b => (b.q.wf, b.closed)) = some (true, true) := by decide +kernel
example : (encRun Dict.empty ["a", "b", "a"]).next = 2 := by decide +kernel
example : mRun (Dict.empty, QStore.empty) [.enc "a", .enc "b", .enc "a", .dec 1, .qenc (0, 1, 0), .qdec quotedBit]
    = [.id 0, .id 1, .id 0, .str (some "b"), .id quotedBit, .comp (some (0, 1, 0))] := by decide +kernel

end Kolibrie.Props.C15
