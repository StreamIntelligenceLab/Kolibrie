import Kolibrie.Lemmas.Store
/-!
# C04 — every read path of the store agrees with the set of quads written

Property theorems only (helper lemmas: `Kolibrie/Lemmas/Store.lean`).  Model: `Kolibrie/Model/Store.lean`
(the four redundant indexes of `DatasetIndex` kept as four separate relations, the graph catalog, every
read path, `build_all_indexes`).  Specification: `Kolibrie/Spec/QuadSet.lean` (one abstract set of quads
plus a set of graph identities).

All statements quantify over **every finite operation history** `ops : List Op` (no bound on length, on the
number of terms or graphs).
-/
namespace Kolibrie.Props.C04
open Kolibrie.Store

/-- two abstract states denote the same sets -/
def AbsEq (a b : Abs) : Prop :=
  (∀ q, q ∈ a.quads ↔ q ∈ b.quads) ∧ (∀ g, g ∈ a.graphs ↔ g ∈ b.graphs)

/-- The specification step only depends on the *sets* denoted by the abstract state. -/
theorem spec_congr (a b : Abs) (op : Op) (h : AbsEq a b) :
    AbsEq (specStep a op).1 (specStep b op).1 ∧ (specStep a op).2 = (specStep b op).2 := by
  have hQ : (· ∈ a.quads) = (· ∈ b.quads) := funext fun x => propext (h.1 x)
  have hG : (· ∈ a.graphs) = (· ∈ b.graphs) := funext fun g => propext (h.2 g)
  obtain ⟨qa, ga, ra⟩ := specStep_sem a op
  obtain ⟨qb, gb, rb⟩ := specStep_sem b op
  rw [hQ, hG] at qa ra
  rw [hG] at ga
  exact ⟨⟨fun x => (qa x).trans (qb x).symm, fun g => (ga g).trans (gb g).symm⟩, Bool.eq_iff_iff.2 (ra.trans rb.symm)⟩

/-- **Refinement, one step**: every API call keeps the four indexes consistent (`Inv`), changes the denoted
quad set / graph identities exactly as the specification says, and returns the specified Boolean. -/
theorem step_refines (st : Store) (op : Op) (h : Inv st) :
    Inv (step st op).1 ∧ AbsEq (abs (step st op).1) (specStep (abs st) op).1 ∧
    (step st op).2 = (specStep (abs st) op).2 := by
  obtain ⟨hi, qs, gs, rs⟩ := step_sem st op h
  obtain ⟨qa, ga, ra⟩ := specStep_sem (abs st) op
  exact ⟨hi, ⟨fun x => (qs x).trans (qa x).symm, fun g => (gs g).trans (ga g).symm⟩, Bool.eq_iff_iff.2 (rs.trans ra.symm)⟩

/-- **Every reachable store** satisfies the index invariant and denotes exactly the specification's state
after the same history. -/
theorem reachable (ops : List Op) : Inv (run ops) ∧ AbsEq (abs (run ops)) (specRun ops) := by
  unfold run specRun
  suffices H : ∀ (st : Store) (a : Abs), Inv st → AbsEq (abs st) a →
      Inv (ops.foldl (fun st op => (step st op).1) st) ∧
      AbsEq (abs (ops.foldl (fun st op => (step st op).1) st)) (ops.foldl (fun a op => (specStep a op).1) a) by
    exact H init absInit inv_init ⟨fun _ => Iff.rfl, fun _ => Iff.rfl⟩
  induction ops with
  | nil => intro st a hi he; exact ⟨hi, he⟩
  | cons op ops ih =>
    intro st a hi he
    obtain ⟨hi', he', _⟩ := step_refines st op hi
    obtain ⟨hc, _⟩ := spec_congr (abs st) a op he
    refine ih _ _ hi' ⟨?_, ?_⟩
    · intro q; rw [he'.1 q, hc.1 q]
    · intro g; rw [he'.2 g, hc.2 g]

/-- the Boolean returned by any call after any history is the one the specification returns -/
theorem outputs_agree (ops : List Op) (op : Op) :
    (step (run ops) op).2 = (specStep (specRun ops) op).2 := by
  obtain ⟨hi, he⟩ := reachable ops
  rw [(step_refines (run ops) op hi).2.2, (spec_congr _ _ op he).2]

/-! ## read paths, after every history -/

/-- `query_graph`, all 8 lookup shapes: exactly the matching quads of that graph, each once -/
theorem read_query_graph (ops : List Op) (g : Nat) (sp pp op : Option Nat) :
    (queryGraph (run ops) g sp pp op).Nodup ∧
    ∀ q, q ∈ queryGraph (run ops) g sp pp op ↔ specMatch (specRun ops) g sp pp op q := by
  obtain ⟨hi, he⟩ := reachable ops
  refine ⟨nodup_queryGraph _ hi g sp pp op, ?_⟩
  intro q; rw [mem_queryGraph _ hi]; unfold specMatch; rw [← he.1 q]; rfl

/-- `query_named_graphs` (both code paths, with and without a visibility set) -/
theorem read_query_named (ops : List Op) (sp pp op : Option Nat) (vis : Option (List Nat)) :
    (queryNamed (run ops) sp pp op vis).Nodup ∧
    ∀ q, q ∈ queryNamed (run ops) sp pp op vis ↔
      q ∈ (specRun ops).quads ∧ q.g ≠ 0 ∧ matchQ sp pp op q = true ∧ visibleIn vis q.g = true := by
  obtain ⟨hi, he⟩ := reachable ops
  refine ⟨nodup_queryNamed _ hi sp pp op vis, ?_⟩
  intro q; rw [mem_queryNamed _ hi, ← he.1 q]; rfl

/-- `query_quads` over all graphs -/
theorem read_query_quads (ops : List Op) (sp pp op : Option Nat) :
    (queryQuads (run ops) sp pp op none).Nodup ∧
    ∀ q, q ∈ queryQuads (run ops) sp pp op none ↔ q ∈ (specRun ops).quads ∧ matchQ sp pp op q = true := by
  obtain ⟨hi, he⟩ := reachable ops
  constructor
  · unfold queryQuads
    rw [List.nodup_append]
    refine ⟨nodup_queryGraph _ hi 0 sp pp op, nodup_queryNamed _ hi sp pp op none, ?_⟩
    intro a ha b hb e
    subst e
    exact ((mem_queryNamed _ hi _ _ _ _ _).1 hb).2.1 ((mem_queryGraph _ hi _ _ _ _ _).1 ha).2.1
  · intro q
    unfold queryQuads
    simp only [List.mem_append, mem_queryGraph _ hi, mem_queryNamed _ hi, visibleIn, ← he.1 q, abs]
    constructor
    · rintro (⟨a, _, c⟩ | ⟨a, _, c, _⟩) <;> exact ⟨a, c⟩
    · rintro ⟨a, c⟩
      by_cases hz : q.g = 0
      · exact Or.inl ⟨a, hz, c⟩
      · exact Or.inr ⟨a, hz, c, trivial⟩

/-- `query_merged_graphs`: each matching triple once, however often a source graph is repeated -/
theorem read_query_merged (ops : List Op) (srcs : List Nat) (sp pp op : Option Nat) :
    (queryMerged (run ops) srcs sp pp op).Nodup ∧
    ∀ t, t ∈ queryMerged (run ops) srcs sp pp op ↔
      t.g = 0 ∧ ∃ g ∈ srcs, (⟨t.s, t.p, t.o, g⟩ : Quad) ∈ (specRun ops).quads ∧ matchQ sp pp op t = true := by
  obtain ⟨hi, he⟩ := reachable ops
  unfold queryMerged
  constructor
  · exact nodup_foldl_insL (fun x : Quad => x) _ [] List.nodup_nil
  · intro t
    rw [mem_foldl_insL (fun x : Quad => x)]
    simp only [List.not_mem_nil, false_or, List.mem_flatMap, List.mem_map, mem_queryGraph _ hi, ← he.1, abs]
    constructor
    · rintro ⟨x, ⟨g, hg, q, ⟨a, rfl, c⟩, rfl⟩, rfl⟩
      exact ⟨rfl, q.g, hg, a, by simpa [matchQ] using c⟩
    · rintro ⟨hz, g, hg, a, c⟩
      refine ⟨t, ⟨g, hg, ⟨t.s, t.p, t.o, g⟩, ⟨a, rfl, by simpa [matchQ] using c⟩, ?_⟩, rfl⟩
      cases t; simp_all

/-- `contains_quad` -/
theorem read_contains (ops : List Op) (q : Quad) :
    contains (run ops) q = true ↔ q ∈ (specRun ops).quads := by
  obtain ⟨_, he⟩ := reachable ops
  simp [contains, ← he.1 q, abs]

/-- `graphs_for_triple` -/
theorem read_graphs_for_triple (ops : List Op) (s p o g : Nat) :
    g ∈ graphsForTriple (run ops) s p o ↔ (⟨s, p, o, g⟩ : Quad) ∈ (specRun ops).quads := by
  obtain ⟨_, he⟩ := reachable ops
  simp only [graphsForTriple, List.mem_map, List.mem_filter, Bool.and_eq_true, beq_iff_eq, ← he.1, abs]
  constructor
  · rintro ⟨q, ⟨a, ⟨⟨rfl, rfl⟩, rfl⟩⟩, rfl⟩; exact a
  · intro a; exact ⟨⟨s, p, o, g⟩, ⟨a, ⟨⟨rfl, rfl⟩, rfl⟩⟩, rfl⟩

/-- `all_quads`: the complete dataset, each quad once -/
theorem read_all_quads (ops : List Op) :
    (allQuads (run ops)).Nodup ∧ ∀ q, q ∈ allQuads (run ops) ↔ q ∈ (specRun ops).quads := by
  obtain ⟨hi, he⟩ := reachable ops
  exact ⟨nodup_allQuads _ hi, fun q => by rw [mem_allQuads _ hi, ← he.1 q]; rfl⟩

/-- `graphs` / `named_graphs`: the default graph plus exactly the graph identities of the specification
(created or first inserted, until dropped — independent of content), each once -/
theorem read_graphs (ops : List Op) :
    (graphs (run ops)).Nodup ∧ ∀ g, g ∈ graphs (run ops) ↔ g = 0 ∨ g ∈ (specRun ops).graphs := by
  obtain ⟨hi, he⟩ := reachable ops
  exact ⟨nodup_graphs _ hi, fun g => by rw [mem_graphs _ hi, ← he.2 g]; rfl⟩

/-- `rebuild` (`build_all_indexes`) never changes what is stored -/
theorem rebuild_identity (ops : List Op) :
    AbsEq (abs (rebuild (run ops))) (specRun ops) := by
  obtain ⟨hi, he⟩ := reachable ops
  obtain ⟨_, hs, hn⟩ := rebuild_spec _ hi
  exact ⟨fun q => by rw [← he.1 q]; exact hs q, fun g => by rw [← he.2 g]; exact hn g⟩

/-! ## concrete histories

A graph outlives its last quad, in the model and in the specification; a visibility set filters `query_named_graphs`. -/

example : (run [.ins ⟨1, 2, 3, 1⟩, .ins ⟨1, 2, 3, 0⟩, .del ⟨1, 2, 3, 1⟩, .create 2]).named = [1, 2] := by decide
example : (specRun [.ins ⟨1, 2, 3, 1⟩, .ins ⟨1, 2, 3, 0⟩, .del ⟨1, 2, 3, 1⟩, .create 2]).graphs = [1, 2] := by decide
example : queryNamed (run [.ins ⟨1, 2, 3, 1⟩, .ins ⟨1, 2, 3, 2⟩, .ins ⟨1, 2, 3, 0⟩]) (some 1) (some 2) (some 3) (some [2])
    = [⟨1, 2, 3, 2⟩] := by decide

end Kolibrie.Props.C04
