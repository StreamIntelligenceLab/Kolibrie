import Kolibrie.Lemmas.Update
/-!
# C03 — SPARQL Update applies exactly the standard effect, atomically

Model: `Kolibrie/Model/Update.lean` (validation, template instantiation with legality checks and per-solution
blank nodes, `apply_mutations` as two sequential folds of `delete_quad` / `insert_quad` with change counting).
Specification: `Kolibrie/Spec/UpdateSpec.lean` (the W3C set formula).
All statements hold for every dataset, every request and every finite history.
-/
namespace Kolibrie.Props.C03
open Kolibrie.Engine Kolibrie.Update List

/-- **delete-then-insert with change counting = the standard effect**: the sequential application of all
deletions and then all insertions yields exactly `(D ∖ Del) ++ (Ins ∖ (D ∖ Del))`, the graph catalog grows by the
graphs inserted into, `deleted` = number of distinct deleted quads that were present, `inserted` = number of
distinct inserted quads that were absent after the deletions -/
theorem mutations_standard_effect (db : DB) (dels inss : List Quad) :
    applyMutations db dels inss = specApply db dels inss := applyMutations_eq db dels inss

/-- the quad set after an update is `(D ∖ Del) ∪ Ins` -/
theorem standard_effect_membership (db : DB) (dels inss : List Quad) (q : Quad) :
    q ∈ (applyMutations db dels inss).1.quads ↔ (q ∈ db.quads ∧ q ∉ dels) ∨ q ∈ inss := by
  rw [applyMutations_eq]
  exact mem_specApply_quads db dels inss q

/-- every request behaves as the specification says (same state, same counts, same rejections) -/
theorem update_refines_spec (db : DB) (u : Upd) (base : Nat) :
    applyUpdate db u base = specUpdate db u base := by
  unfold applyUpdate specUpdate
  simp only [applyMutations_eq]
  cases u with
  | modify del ins w => cases del <;> cases ins <;> rfl
  | _ => rfl

/-- **every history**: after any finite sequence of requests (malformed ones interleaved) the stored dataset
and every reported summary are the specification's -/
theorem history_refines_spec (db : DB) (us : List Upd) : runHistory db us = specHistory db us := by
  unfold runHistory specHistory
  have : applyUpdate = specUpdate := by funext d u b; exact update_refines_spec d u b
  rw [this]

/-- a rejected request leaves the dataset unchanged; requests are rejected exactly for the syntactic reasons of
`sparql_update_core` -/
theorem rejected_unchanged (db : DB) (u : Upd) (base : Nat) :
    (applyUpdate db u base = none ↔ u.valid = false) ∧
    (applyUpdate db u base = none → (runHistory db [u]).2 = db) := by
  have key : ∀ b, applyUpdate db u b = none ↔ u.valid = false := by
    intro b
    unfold applyUpdate
    cases hv : u.valid
    · simp
    · cases u <;> simp
  refine ⟨key base, fun h => ?_⟩
  have h0 : applyUpdate db u 0 = none := (key 0).2 ((key base).1 h)
  simp [runHistory, historyWith, h0]

/-- the WHERE clause is evaluated once, on the pre-operation dataset; both templates are instantiated from that
one solution sequence before any mutation -/
theorem modify_uses_pre_state (db : DB) (del ins : List QT) (w : Pat) (base : Nat)
    (hv : (Upd.modify (some del) (some ins) w).valid = true) :
    applyUpdate db (.modify (some del) (some ins) w) base =
      some (applyMutations db
        (instTemplates db del (sem db ⟨View.fromDb db, none⟩ w) base)
        (instTemplates db ins (sem db ⟨View.fromDb db, none⟩ w) base)) := by
  unfold applyUpdate; simp [hv]

/-- **the update is correct whichever plan evaluates its WHERE clause**: for WHERE clauses of the fragment `okPat`
    (proved to be plan-independent in C01/C02) and blank-node-free templates, running the executor on the plan chosen
    by *any* join-algorithm oracle yields the standard effect — same quad set, same graph catalog, same counts — as
    the specification that evaluates the WHERE clause by the algebra on the pre-operation dataset -/
theorem modify_correct_under_every_plan (db : DB) (del ins : List QT) (w : Pat) (base : Nat) (algs : List JoinAlg)
    (hw : okPat w = true) (hd : bnodeFree del = true) (hi : bnodeFree ins = true) :
    let rows := sem db ⟨View.fromDb db, none⟩ w
    let spec := specApply db (instTemplates db del rows base) (instTemplates db ins rows base)
    let impl := modifyExec db (some del) (some ins) w base algs
    (∀ q, q ∈ impl.1.quads ↔ q ∈ spec.1.quads) ∧ (∀ g, g ∈ impl.1.graphs ↔ g ∈ spec.1.graphs) ∧ impl.2 = spec.2 := by
  intro rows spec impl
  have hc : (⟨View.fromDb db, none⟩ : Ctx).WF := nodup_eraseDups _
  have hperm := plans_compute_algebra db w hw algs ⟨View.fromDb db, none⟩ hc
  have e : impl = specApply db
      (instTemplates db del (exec db (implement algs (lower .dflt w)).1 ⟨View.fromDb db, none⟩ [[]]) base)
      (instTemplates db ins (exec db (implement algs (lower .dflt w)).1 ⟨View.fromDb db, none⟩ [[]]) base) := by
    show modifyExec db (some del) (some ins) w base algs = _
    unfold modifyExec
    simp only [applyMutations_eq]
  rw [e]
  exact specApply_congr db _ _ _ _
    (fun q => instTemplates_perm db del _ _ base hd hperm q)
    (fun q => instTemplates_perm db ins _ _ base hi hperm q)

/-- deleting and re-inserting the same present quad is reported as one deletion and one insertion, re-inserting
an existing quad that is not deleted is reported as no change (instances of `mutations_standard_effect`) -/
example : (applyMutations ⟨[⟨"s", "p", "o", none⟩], []⟩ [⟨"s", "p", "o", none⟩] [⟨"s", "p", "o", none⟩]).2 = ⟨1, 1⟩ := by decide
example : (applyMutations ⟨[⟨"s", "p", "o", none⟩], []⟩ [] [⟨"s", "p", "o", none⟩]).2 = ⟨0, 0⟩ := by decide
/-- non-vacuity of `rejected_unchanged`: a DELETE template with a blank node is rejected -/
example : (Upd.modify (some [⟨.bnode "b", .const "p", .var 0, none⟩]) none .unit).valid = false := by decide

end Kolibrie.Props.C03
