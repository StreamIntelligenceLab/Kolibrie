import Kolibrie.Lemmas.Window
/-!
# C09 — a time window reports exactly the stream items of one aligned interval

Property theorems only (helper lemmas: `Kolibrie/Lemmas/Window.lean`).  Model: `Kolibrie/Model/Window.lean`
(`CSPARQLWindow::{scope, add_to_window}`, `Report::report`; the comparison guards and the `max_by` direction are the
definitions regenerated from `s2r.rs` into `Kolibrie/Extracted.lean`).  Specification: `Kolibrie/Spec/Window.lean`
(aligned interval `[c - width, c)`, `contentOf`, the reference `reports`).

All statements hold for **every** width `w`, every slide `s ≥ 1` and **every** in-order stream
`stream : List (item × timestamp)` (duplicated timestamps, repeated items and arbitrary gaps allowed), for the
configuration `stdCfg w s` = report strategy `OnWindowClose`, tick `TimeDriven`.  A `Firing` records the position
`idx` and timestamp `trigger` of the item whose arrival invoked the consumer, the `close` of the reported window and
the `content` handed over.
-/
namespace Kolibrie.Props.C09
open Kolibrie.Window

/-- **Window invariant** (induction over the stream).  After any in-order stream every active window is an aligned
interval `[c - w, c)` (start clipped at 0) that contains the last timestamp, and its content is exactly — each item
once — the items seen so far whose timestamp lies in it; conversely every aligned interval containing the last
timestamp is active. -/
theorem win_inv (w s : Nat) (stream : List (Nat × Nat)) (hs : 1 ≤ s) (ho : InOrder stream) :
    (∀ y ∈ (stateAfter (stdCfg w s) init stream).active,
        s ∣ y.close ∧ y.wopen = y.close - w ∧
        (∃ T, lastTs stream = some T ∧ y.wopen ≤ T ∧ T < y.close) ∧
        y.content = contentOf w stream y.close ∧ y.content.Nodup ∧
        (∀ x, x ∈ y.content ↔ ∃ t, (x, t) ∈ stream ∧ y.wopen ≤ t ∧ t < y.close)) ∧
    (∀ T, lastTs stream = some T → ∀ c, s ∣ c → c - w ≤ T → T < c →
        ∃ y ∈ (stateAfter (stdCfg w s) init stream).active, y.close = c ∧ y.wopen = c - w) := by
  have hI : Inv w s _ stream := stateAfter_inv hs stream [] init (inv_init w s) ho
  constructor
  · intro y hy
    obtain ⟨a, b, c, d⟩ := hI.wf y hy
    refine ⟨a, b, d, c, ?_, ?_⟩
    · rw [c]; exact contentOf_nodup _ _ _
    · intro x; rw [c, mem_contentOf, b]
  · intro T hl c hc h1 h2
    obtain ⟨y, hy, hyc⟩ := hI.complete T hl c hc h1 h2
    obtain ⟨_, b, _, _⟩ := hI.wf y hy
    exact ⟨y, hy, hyc, by rw [b, hyc]⟩

/-- **Reported contents are exact.**  Every content handed to the consumer is — each item once — precisely the
items that arrived *before* the triggering item with a timestamp in `[c - w, c)`, for one `c` that is a positive
multiple of the slide and not after the triggering timestamp: no item missing, none foreign. -/
theorem fired_exact (w s : Nat) (stream : List (Nat × Nat)) (hs : 1 ≤ s) (ho : InOrder stream) :
    ∀ f ∈ run (stdCfg w s) stream,
      (∃ x, stream[f.idx]? = some (x, f.trigger)) ∧ s ∣ f.close ∧ 0 < f.close ∧ f.close ≤ f.trigger ∧
      f.content = contentOf w (stream.take f.idx) f.close ∧ f.content.Nodup ∧
      (∀ x, x ∈ f.content ↔ ∃ t, (x, t) ∈ stream.take f.idx ∧ f.close - w ≤ t ∧ t < f.close) := by
  intro f hf
  rw [run_eq_reports hs ho] at hf
  obtain ⟨a, b, c, d, e, _⟩ := reportsFrom_facts stream [] ho f hf
  rw [List.nil_append] at a e
  refine ⟨a, b, d, c, e, ?_, ?_⟩
  · rw [e]; exact contentOf_nodup _ _ _
  · intro x; rw [e, mem_contentOf]

/-- **Reports advance.**  Trigger times strictly increase and the reported intervals strictly advance (so in
particular closes are non-decreasing and no interval is reported twice). -/
theorem fired_monotone (w s : Nat) (stream : List (Nat × Nat)) (hs : 1 ≤ s) (ho : InOrder stream) :
    (run (stdCfg w s) stream).Pairwise (fun a b => a.trigger < b.trigger ∧ a.close < b.close) := by
  rw [run_eq_reports hs ho]
  exact reportsFrom_pairwise stream [] ho

/-- no interval is reported twice -/
theorem fired_once (w s : Nat) (stream : List (Nat × Nat)) (hs : 1 ≤ s) (ho : InOrder stream) :
    ∀ f ∈ run (stdCfg w s) stream, ∀ g ∈ run (stdCfg w s) stream, f.close = g.close → f = g := by
  have hp := fired_monotone w s stream hs ho
  generalize run (stdCfg w s) stream = l at hp
  induction l with
  | nil => exact fun f hf => nomatch hf
  | cons a l ih =>
    obtain ⟨h1, h2⟩ := List.pairwise_cons.1 hp
    intro f hf g hg e
    rcases List.mem_cons.1 hf with rfl | hf' <;> rcases List.mem_cons.1 hg with rfl | hg'
    · rfl
    · have := (h1 g hg').2; omega
    · have := (h1 f hf').2; omega
    · exact ih h2 f hf' g hg' e

/-- **Every closing interval is reported exactly once** when consecutive timestamps are at most one slide apart:
every multiple `c` of the slide with `first < c ≤ last` whose interval `[c - w, c)` contains at least one item is
reported by exactly one firing.  (When `w < s` an interval that no item falls into is opened by `scope` and evicted
by the same call, and it is reported, empty, only if an item arrives exactly at its close; for `w ≥ s` the premise is
automatic, see `no_gap_complete_sliding`.) -/
theorem no_gap_complete (w s : Nat) (stream : List (Nat × Nat)) (hs : 1 ≤ s)
    (hg : gapsAtMost s stream = true) (c : Nat) (hc : s ∣ c)
    (hfirst : ∃ a, stream.head? = some a ∧ a.2 < c) (hlast : ∃ T, lastTs stream = some T ∧ c ≤ T)
    (hne : ∃ it ∈ stream, c - w ≤ it.2 ∧ it.2 < c) :
    ∃ f ∈ run (stdCfg w s) stream, f.close = c ∧ ∀ g ∈ run (stdCfg w s) stream, g.close = c → g = f := by
  have ho := gaps_inOrder s stream hg
  obtain ⟨f, hf, hfc⟩ := reports_complete hg hc hfirst hlast hne
  rw [← run_eq_reports hs ho] at hf
  exact ⟨f, hf, hfc, fun g hgm hgc => fired_once w s stream hs ho g hgm f hf (hgc.trans hfc.symm)⟩

/-- the property's sentence verbatim for sliding and tumbling windows (`w ≥ s`): with consecutive timestamps at
most one slide apart, **every** multiple of the slide in `(first, last]` is reported exactly once -/
theorem no_gap_complete_sliding (w s : Nat) (stream : List (Nat × Nat)) (hs : 1 ≤ s) (hws : s ≤ w)
    (hg : gapsAtMost s stream = true) (c : Nat) (hc : s ∣ c)
    (hfirst : ∃ a, stream.head? = some a ∧ a.2 < c) (hlast : ∃ T, lastTs stream = some T ∧ c ≤ T) :
    ∃ f ∈ run (stdCfg w s) stream, f.close = c ∧ ∀ g ∈ run (stdCfg w s) stream, g.close = c → g = f :=
  no_gap_complete w s stream hs hg c hc hfirst hlast (gap_nonempty hws hg hfirst hlast)

/-- **The code's reports are the specification's reports** (this is the `S` line of the correspondence run): on
every in-order stream the model of `add_to_window` fires exactly when, and with exactly the close and content that,
the window-state-free reference `reports` prescribes — the latest aligned interval closing in
`(previous timestamp, t]` that contains the previous item or closes exactly at `t`. -/
theorem model_eq_spec (w s : Nat) (stream : List (Nat × Nat)) (hs : 1 ≤ s) (ho : InOrder stream) :
    run (stdCfg w s) stream = reports w s stream :=
  run_eq_reports hs ho

/-! ## non-vacuity: concrete streams satisfying the hypotheses, with non-trivial reports -/

/-- width 3, slide 2 (width not a multiple of the slide), a duplicate timestamp, a repeated item, a gap -/
example : InOrder [(7, 1), (8, 1), (9, 2), (7, 3), (5, 9)] := by unfold InOrder; decide +kernel
example : run (stdCfg 3 2) [(7, 1), (8, 1), (9, 2), (7, 3), (5, 9)] =
    [⟨2, 2, 2, [7, 8]⟩, ⟨4, 9, 6, [7]⟩] := by decide +kernel
example : gapsAtMost 2 [(7, 1), (8, 1), (9, 2), (7, 3), (5, 5)] = true := by decide +kernel
example : (2 : Nat) ∣ 4 ∧ (∃ a, [(7, 1), (8, 1), (9, 2), (7, 3), (5, 5)].head? = some a ∧ a.2 < 4) ∧
    (∃ T, lastTs [(7, 1), (8, 1), (9, 2), (7, 3), (5, 5)] = some T ∧ 4 ≤ T) ∧
    (∃ it ∈ [(7, 1), (8, 1), (9, 2), (7, 3), (5, 5)], 4 - 3 ≤ it.2 ∧ it.2 < 4) := by
  exact ⟨⟨2, rfl⟩, ⟨(7, 1), rfl, by decide⟩, ⟨5, rfl, by decide⟩, ⟨(9, 2), by decide, by decide, by decide⟩⟩
example : run (stdCfg 3 2) [(7, 1), (8, 1), (9, 2), (7, 3), (5, 5)] =
    [⟨2, 2, 2, [7, 8]⟩, ⟨4, 5, 4, [7, 8, 9]⟩] := by decide +kernel

end Kolibrie.Props.C09
