import Kolibrie.Lemmas.Lines
/-
C14 — exported data re-imports to the same dataset.

The model (Model/Lines.lean) is the *repaired* code: `generate_ntriples` / `generate_turtle` escape literals,
`clean_turtle_term` unescapes, `generate_turtle` keeps one subject block per line (fixes/C14_escape_nt_ttl.patch).
Theorems are stated for every finite list of quads over plain (non-quoted) terms, every Unicode literal value.
-/
namespace Kolibrie.Props.C14
open Kolibrie.Lines Kolibrie.RoundTrip Kolibrie.Extracted

/-! ### the extracted tables (re-proved against the current source on every run) -/

/-- every escape arm has the shape `c ↦ \e` with `e ∉ {u, U, newline}` and the decoder maps `\e` back to `c` -/
theorem table_round_trip : ∀ p ∈ escapeTable, escRowOk p = true := by decide +kernel

/-- every character the decoder / line splitter treats specially is escaped: `"`, `\`, line feed, carriage return -/
theorem table_complete :
    (escapeTable.lookup '"').isSome = true ∧ (escapeTable.lookup '\\').isSome = true ∧
    (escapeTable.lookup '\n').isSome = true ∧ (escapeTable.lookup '\r').isSome = true := by decide +kernel

/-! ### decode ∘ escape = id, all Unicode strings -/

theorem decode_escape (s rest : Str) : decodeLit ('"' :: escape s ++ '"' :: rest) = some (s, rest) :=
  decodeGo_escape ⟨table_round_trip, table_complete⟩ s rest []

/-- the escaped text never contains a raw line feed, so a literal cannot break the line structure -/
theorem escape_no_newline (s : Str) : ∀ c ∈ escape s, c ≠ '\n' :=
  escape_nonl ⟨table_round_trip, table_complete⟩ s

/-! ### term-kind guessing -/

inductive Kind | iri | blank | literal
  deriving DecidableEq

/-- the kind `generate_nquads` guesses for an object string -/
def classify (o : Str) : Option Kind :=
  if startsWith ['<', '<'] o then none            -- taken for a quoted triple
  else if startsWith ['_', ':'] o then some .blank
  else if looksLikeAbsoluteIri o then some .iri else some .literal

/-- the explicit predicate of the property's quantifier, per intended kind -/
def WellFormedTerm : Kind → Str → Bool
  | .iri, s => validIri s
  | .blank, s => validBlank s
  | .literal, s => literalOk s

theorem iri_head {s : Str} (h : validIri s = true) :
    startsWith ['<', '<'] s = false ∧ startsWith ['_', ':'] s = false ∧ looksLikeAbsoluteIri s = true := by
  simp only [validIri, Bool.and_eq_true] at h
  obtain ⟨f, r, rfl, hf⟩ := looksLike_head h.1
  exact ⟨startsWith_cons_ne _ _ (alpha_ne hf (by decide)).symm, startsWith_cons_ne _ _ (alpha_ne hf (by decide)).symm, h.1⟩

theorem classify_render (k : Kind) (s : Str) (h : WellFormedTerm k s = true) : classify s = some k := by
  cases k with
  | iri =>
    obtain ⟨a, b, c⟩ := iri_head h
    simp [classify, a, b, c]
  | blank =>
    obtain ⟨l, rfl, _⟩ := validBlank_shape h
    simp [classify, startsWith, List.isPrefixOf]
  | literal =>
    simp only [WellFormedTerm, literalOk, mistakable, Bool.not_eq_true', Bool.or_eq_false_iff] at h
    simp [classify, h.1.1, h.1.2, h.2]

example : WellFormedTerm .literal "say \"hi\"\\ \n there".toList = true := by decide +kernel
example : WellFormedTerm .iri "urn:x:y".toList = true := by decide +kernel

/-! ### N-Quads: export → import is the identity -/

/-- a quad over plain terms as the dictionary stores them -/
structure PQuad where
  s : Str
  p : Str
  o : Str
  g : Option Str

def PQuad.toL (q : PQuad) : LQuad := ⟨.plain q.s, .plain q.p, .plain q.o, q.g.map .plain⟩

def wfSubj (s : Str) : Bool := validIri s || validBlank s
/-- objects: IRI, blank node, or a literal inside the property's quantifier that also satisfies the forced
    hypothesis `¬ edgeShape` (trigger `lit_edge_shape` of the known finding) -/
def wfObj (o : Str) : Bool := validIri o || validBlank o || (literalOk o && !edgeShape o)

def WellFormed (q : PQuad) : Bool :=
  wfSubj q.s && validIri q.p && wfObj q.o && (match q.g with | none => true | some g => wfSubj g)

theorem good_subj {s : Str} (h : wfSubj s = true) : Good (nqSubj s) s := by
  simp only [wfSubj, Bool.or_eq_true] at h
  rcases h with h | h
  · obtain ⟨a, b, _⟩ := iri_head h
    simpa [nqSubj, a, b] using good_angle h
  · obtain ⟨l, rfl, _⟩ := validBlank_shape h
    simpa [nqSubj, startsWith, List.isPrefixOf] using good_blank h

theorem good_graph {g : Str} (h : wfSubj g = true) : Good (nqGraph g) g := by
  simp only [wfSubj, Bool.or_eq_true] at h
  rcases h with h | h
  · obtain ⟨_, b, _⟩ := iri_head h
    simpa [nqGraph, b] using good_angle h
  · obtain ⟨l, rfl, _⟩ := validBlank_shape h
    simpa [nqGraph, startsWith, List.isPrefixOf] using good_blank h

theorem good_obj {o : Str} (h : wfObj o = true) : Good (nqObj o) o := by
  simp only [wfObj, Bool.or_eq_true, Bool.and_eq_true, Bool.not_eq_true'] at h
  rcases h with (h | h) | h
  · obtain ⟨a, b, c⟩ := iri_head h
    simpa [nqObj, a, b, c] using good_angle h
  · obtain ⟨l, rfl, _⟩ := validBlank_shape h
    simpa [nqObj, startsWith, List.isPrefixOf] using good_blank h
  · obtain ⟨h1, h2⟩ := h
    simp only [literalOk, mistakable, Bool.not_eq_true', Bool.or_eq_false_iff] at h1
    simpa [nqObj, h1.1.1, h1.1.2, h1.2] using good_quote ⟨table_round_trip, table_complete⟩ h1.2 h2

def lineNQ (q : PQuad) : Str := genLineNQ q.s q.p q.o q.g

theorem nq_line (q : PQuad) (h : WellFormed q = true) : ReadsAs parseLineNQ (lineNQ q) q.toL := by
  obtain ⟨s, p, o, g⟩ := q
  simp only [WellFormed, Bool.and_eq_true] at h
  obtain ⟨⟨⟨hs, hp⟩, ho⟩, hg⟩ := h
  rw [lineNQ, genLineNQ_eq]
  cases g with
  | none => exact parseLineNQ_three (good_subj hs) (good_angle hp) (good_obj ho)
  | some g => exact parseLineNQ_four (good_subj hs) (good_angle hp) (good_obj ho) (good_graph hg)

theorem genNQ_eq (D : List PQuad) : genNQ (D.map PQuad.toL) = D.flatMap fun q => lineNQ q ++ ['\n'] := by
  simp only [genNQ, List.flatMap_map, PQuad.toL, Option.map_map, Function.comp_def, render, Option.map_id']
  rfl

/-- **N-Quads round trip, all graphs**: for every list of well-formed quads (any number, any order, any Unicode literal
    values), importing the exported text yields exactly those quads. -/
theorem nq_round_trip_partial (D : List PQuad) (h : ∀ q ∈ D, WellFormed q = true) :
    parseNQ (genNQ (D.map PQuad.toL)) = D.map PQuad.toL := by
  rw [genNQ_eq]
  exact filterMap_lines lineNQ parseLineNQ PQuad.toL D fun q hq => nq_line q (h q hq)

/- FULL:
theorem nq_round_trip (D : List LQuad) (h : ∀ q ∈ D, inScopeQuad q) : parseNQ (genNQ D) ≃ D   (as sets)
Gap to the full statement: (1) quoted-triple terms (`<< s p o >>`) are covered by the model and the differential run only —
the forced hypothesis there is `quotedOk` (inner terms are bare tokens) because `decode_term` renders inner terms without
`<>`/quotes; (2) the forced hypothesis `¬ edgeShape` on literal values (see `nq_edge_clash`). -/

example : WellFormed ⟨"http://ex.org/s".toList, "http://ex.org/p".toList, "say \"hi\"\\ \n there\t😀".toList,
    some "_:g1".toList⟩ = true := by decide +kernel
example : WellFormed ⟨"_:b".toList, "urn:p".toList, [], none⟩ = true := by decide +kernel

/-- the forced hypothesis is really needed: the literal value `"x"` (quotes included) is inside the property's quantifier
    but comes back as `x` — `encode_term_star` strips the already decoded value a second time. -/
theorem nq_edge_clash : ∃ q : PQuad, inScopeQuad q.toL = true ∧ edgeShape q.o = true ∧
    parseNQ (genNQ [q.toL]) ≠ [q.toL] :=
  ⟨⟨"http://a".toList, "http://b".toList, "\"x\"".toList, none⟩, by decide +kernel⟩

/-! ### N-Triples (default graph): export → import is the identity on the repaired code -/

theorem good_ntSubj {s : Str} (h : wfSubj s = true) : Good (ntSubj s) s := by
  simp only [wfSubj, Bool.or_eq_true] at h
  rcases h with h | h
  · obtain ⟨a, _, _⟩ := iri_head h
    simpa [ntSubj, a] using good_angle h
  · obtain ⟨l, rfl, hall, _⟩ := validBlank_shape h
    simpa [ntSubj, startsWith, List.isPrefixOf] using good_angle_all (List.cons_ne_nil _ _) hall

/-- `generate_ntriples` writes `<…>` only for `http(s)` IRIs; every other IRI, and every blank node, goes out as a
    quoted literal and still comes back as the same string -/
theorem good_ntObj {o : Str} (h : wfObj o = true) : Good (ntObj o) o := by
  have ok : EscapeOk := ⟨table_round_trip, table_complete⟩
  simp only [wfObj, Bool.or_eq_true, Bool.and_eq_true, Bool.not_eq_true'] at h
  rcases h with (h | h) | h
  · obtain ⟨a, _, _⟩ := iri_head h
    by_cases hh : isHttp o = true
    · simpa [ntObj, a, hh] using good_angle h
    · simp only [validIri, Bool.and_eq_true] at h
      simpa [ntObj, a, hh] using good_quote_iriChars ok h.2
  · obtain ⟨l, rfl, hall, _⟩ := validBlank_shape h
    have a : startsWith ['<', '<'] ('_' :: ':' :: l) = false := by simp [startsWith, List.isPrefixOf]
    have hh : isHttp ('_' :: ':' :: l) = false := by simp [isHttp, startsWith, List.isPrefixOf]
    simpa [ntObj, a, hh] using good_quote_iriChars ok hall
  · obtain ⟨h1, h2⟩ := h
    simp only [literalOk, mistakable, Bool.not_eq_true', Bool.or_eq_false_iff] at h1
    have hh : isHttp o = false := by
      cases hx : isHttp o with
      | false => rfl
      | true => rw [isHttp_looksLike hx] at h1; cases h1.1.1
    simpa [ntObj, h1.2, hh] using good_quote ok h1.2 h2

def lineNT (q : PQuad) : Str := genLineNT q.s q.p q.o

theorem nt_line (q : PQuad) (h : WellFormed q = true) :
    ReadsAs parseLineNT (lineNT q) ⟨.plain q.s, .plain q.p, .plain q.o, none⟩ := by
  simp only [WellFormed, Bool.and_eq_true] at h
  obtain ⟨⟨⟨hs, hp⟩, ho⟩, _⟩ := h
  rw [lineNT, genLineNT_eq]
  exact parseLineNT_three (good_ntSubj hs) (good_angle hp) (good_ntObj ho)

def defaultOnly (D : List PQuad) : List PQuad := D.filter fun q => q.g.isNone

theorem genNT_eq (D : List PQuad) : genNT (D.map PQuad.toL) = (defaultOnly D).flatMap fun q => lineNT q ++ ['\n'] := by
  simp only [genNT, defaultOnly, List.filter_map, List.flatMap_map, Function.comp_def, PQuad.toL, Option.isNone_map]
  rfl

/-- **N-Triples round trip (default graph)**: for every list of well-formed quads, importing the exported text yields
    exactly the default-graph triples. -/
theorem nt_round_trip_partial (D : List PQuad) (h : ∀ q ∈ D, WellFormed q = true) :
    parseNT (genNT (D.map PQuad.toL)) = (defaultOnly D).map fun q => ⟨.plain q.s, .plain q.p, .plain q.o, none⟩ := by
  rw [genNT_eq]
  exact filterMap_lines lineNT parseLineNT _ _ fun q hq => nt_line q (h q (List.mem_filter.mp hq).1)

/- FULL (Turtle):
theorem ttl_round_trip (D : List PQuad) (h : ∀ q ∈ D, WellFormed q ∧ ¬ annotationMarker q.o) :
    (parseTTL [] (genTTL [] (D.map PQuad.toL))).map (·.2) ≃ some ((defaultOnly D).map …)   (as sets)
Not proved: the Turtle reader is a second tokenizer (`tokenize_turtle_star_line` + the `; , .` statement machine +
`resolve_query_term`); it is transcribed in Model/Lines.lean and tied to the code by the differential run only. -/

/-- Turtle witness of the forced hypothesis `ttl_annotation_marker`: a literal containing `{|` is cut by the annotation
    handling of `flush_object` (model evaluation; replayed on the code by corpus/C14/witnesses.case) -/
theorem ttl_annotation_clash : ∃ q : PQuad, inScopeQuad q.toL = true ∧ edgeShape q.o = false ∧ annotationMarker q.o = true ∧
    (parseTTL [] (genTTL [] [q.toL])).map (·.2) ≠ some [q.toL] :=
  ⟨⟨"http://a".toList, "http://b".toList, "x {| y |}".toList, none⟩, by decide +kernel⟩

end Kolibrie.Props.C14
