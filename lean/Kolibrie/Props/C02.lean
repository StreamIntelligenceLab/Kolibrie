import Kolibrie.Lemmas.LowerSound
/-!
# C02 — query answers do not depend on the plan the optimizer happens to choose

Model: `Kolibrie/Model/Engine.lean` (`exec` = `execute_with_ids_and_input`, the three join executors,
`execute_bind_join` chunking).  `~` is `List.Perm` (equality of solution multisets).

Proved here, for **all** databases, contexts, plans and solution sequences:
* the hash join and the nested-loop join return the same multiset (`hash_eq_nl`);
* the executor distributes over concatenation of the incoming solutions, hence the chunk size of the bind join
  — i.e. the number of worker threads — never changes the multiset (`chunking_irrelevant`);
* the executor respects permutations of its input (`exec_respects_perm`), so the order in which a scan
  group's left side produces its rows is irrelevant;
* if the right operand of a join is input-independent, the bind join, the hash join and the nested-loop join
  return the same multiset (`join_algorithms_agree`).

* **input independence** (`exec_input_independent`): on the safe fragment (every operator the lowering produces
  except BIND; each FILTER's variables bound by its own input) executing a plan with incoming solutions equals
  joining them with the plan's own solutions — for scans (all graph scopes, merged default graph, graph
  variables), star joins, unions, GRAPH (fixed and variable), filters, VALUES, sub-selects and all three joins;
* hence the bind join, the hash join and the nested-loop join all compute the join of their operands' own
  solutions (`join_algorithms_agree_safe`), and the order of the operands is irrelevant (`join_order_irrelevant`).

* the side condition is decidable (`syntactic_safety_suffices`: FILTER variables ⊆ the variables the filter's input
  certainly binds), and **whatever assignment of {bind, hash, nested-loop} the cost model makes to the join nodes
  of a safe logical plan, the physical plan returns the same multiset** (`optimizer_choice_irrelevant`) — the cost
  model and the statistics are an arbitrary oracle `algs`.

* **`optimizer_sound`**: for every group pattern of the fragment `okPat` (BGPs, nested groups whose FILTERs only
  mention variables the group certainly binds, UNION, GRAPH <iri> / GRAPH ?g, VALUES with UNDEF, sub-selects over one
  triple pattern), every database, every well-formed dataset view and **every** join-algorithm oracle, the physical
  plan obtained from the real lowering computes exactly the multiset the SPARQL algebra assigns to the pattern.

/- FULL: the same statement for the whole supported fragment (`wellScoped [] pat`).  Not proved for: BIND (needs
   freshness of the target among incoming variables), sub-selects over more than one triple pattern
   (`finalize_subquery` is not permutation-invariant: LIMIT / first-row-of-group, so the statement there must be "a
   legal answer"), and the optimizer's scan reordering and star rewrite inside one BGP (`reorder_logical`,
   `is_star_query`), which are covered pairwise by `join_order_irrelevant` / `star_is_scan_chain`.  The
   correspondence run checks all of these against the algebra on generated inputs. -/
-/
namespace Kolibrie.Props.C02
open Kolibrie.Engine List

/-- `hash_join_solution_sequences` ≃ `join_solution_sequences` on every pair of solution sequences -/
theorem hash_eq_nl (l r : List Row) : hashJoin l r ~ nlJoin l r := hashJoin_perm_nlJoin l r

/-- executing on `a ++ b` = executing on `a` and on `b` (multiset), every plan -/
theorem exec_distributes (db : DB) (p : Plan) (ctx : Ctx) (a b : List Row) :
    exec db p ctx (a ++ b) ~ exec db p ctx a ++ exec db p ctx b := exec_append db p ctx a b

theorem exec_respects_perm (db : DB) (p : Plan) (ctx : Ctx) {x y : List Row} (h : x ~ y) :
    exec db p ctx x ~ exec db p ctx y := exec_perm db p ctx h

/-- **however the bind join cuts its left solutions into chunks** (chunk size `n` = left rows / threads,
    any `n`), the concatenated result is the multiset of the unchunked execution -/
theorem chunking_irrelevant (db : DB) (p : Plan) (ctx : Ctx) (n : Nat) (inc : List Row) :
    execChunked db p ctx n inc ~ exec db p ctx inc := by
  unfold execChunked
  have key : ∀ (cs : List (List Row)), cs.flatMap (exec db p ctx) ~ exec db p ctx cs.flatten := by
    intro cs
    induction cs with
    | nil => rw [flatMap_nil, flatten_nil, exec_nil]
    | cons c cs ih =>
      simp only [flatMap_cons, flatten_cons]
      exact ((Perm.refl _).append ih).trans (exec_append db p ctx c cs.flatten).symm
  have := key (chunks n inc)
  rwa [chunks_flatten] at this

/-- the three join executors agree whenever the right operand is input-independent; the hash/nested-loop
    agreement needs no hypothesis at all -/
theorem join_algorithms_agree (db : DB) (l r : Plan) (ctx : Ctx) (inc : List Row) :
    exec db (.hashJoin l r) ctx inc ~ exec db (.nlJoin l r) ctx inc ∧
    (InputIndep db r → exec db (.bindJoin l r) ctx inc ~ exec db (.nlJoin l r) ctx inc) := by
  rw [exec_hashJoin, exec_nlJoin, exec_bindJoin]
  exact ⟨hashJoin_perm_nlJoin _ _, fun h => h ctx _⟩

/-- the unit plan and the empty union are input-independent, in every context and on every input (no canonicity
    needed) -/
theorem leaves_input_independent (db : DB) (vars : List Var) (rows : List (List (Option Val)))
    (i : Plan) (spec : Spec) :
    InputIndep db .unit ∧ InputIndep db .empty := ⟨inputIndep_unit db, inputIndep_empty db⟩

/-- **Input independence** on the safe fragment, for every database, well-formed context (visible named graphs
    form a set) and canonical incoming solution sequence -/
theorem exec_input_independent (db : DB) (p : Plan) (hs : Safe db p) (ctx : Ctx) (hc : ctx.WF)
    (inc : List Row) (hi : AllWF inc) : exec db p ctx inc ~ nlJoin inc (exec db p ctx [[]]) :=
  exec_input_join db p hs ctx hc inc hi

/-- the three join executors compute the same multiset: the join of the operands' own solutions -/
theorem join_algorithms_agree_safe (db : DB) (l r : Plan) (hl : Safe db l) (hr : Safe db r) (ctx : Ctx)
    (hc : ctx.WF) :
    exec db (.bindJoin l r) ctx [[]] ~ nlJoin (exec db l ctx [[]]) (exec db r ctx [[]]) ∧
    exec db (.hashJoin l r) ctx [[]] ~ nlJoin (exec db l ctx [[]]) (exec db r ctx [[]]) ∧
    exec db (.nlJoin l r) ctx [[]] ~ nlJoin (exec db l ctx [[]]) (exec db r ctx [[]]) :=
  ⟨exec_mkJoin db .bind l r hr ctx hc _ allWF_unit, exec_mkJoin db .hash l r hr ctx hc _ allWF_unit,
    exec_mkJoin db .nl l r hr ctx hc _ allWF_unit⟩

/-- **the textual order of two operands never changes the answer** (with any of the join algorithms) -/
theorem join_order_irrelevant (db : DB) (l r : Plan) (hl : Safe db l) (hr : Safe db r) (ctx : Ctx) (hc : ctx.WF) :
    exec db (.bindJoin l r) ctx [[]] ~ exec db (.bindJoin r l) ctx [[]] := by
  have h1 := exec_mkJoin db .bind l r hr ctx hc _ allWF_unit
  have h2 := exec_mkJoin db .bind r l hl ctx hc _ allWF_unit
  exact h1.trans ((nlJoin_comm _ _ (exec_wf db l ctx _ allWF_unit) (exec_wf db r ctx _ allWF_unit)).trans h2.symm)

/-- a star join is the bind-join chain of its scans -/
theorem star_is_scan_chain (db : DB) (ctx : Ctx) (p : QPat) (ps : List QPat) (inc : List Row) :
    exec db (.star (p :: ps)) ctx inc = exec db (.star ps) ctx (exec db (.scan { p with g := .dflt }) ctx inc) := by
  rw [exec_star, exec_star, exec_scan]; rfl

/-- dataset views built by the engine are well formed -/
theorem views_wellformed (db : DB) (d : List (Option Val)) (n : List Val) (a : Option Val) :
    (⟨View.mk' d n, a⟩ : Ctx).WF ∧ (⟨View.fromDb db, a⟩ : Ctx).WF :=
  ⟨nodup_eraseDups _, nodup_eraseDups _⟩

/-- a decidable sufficient condition for `Safe` -/
theorem syntactic_safety_suffices (db : DB) (p : Plan) (h : safeSyn p = true) : Safe db p :=
  safe_of_safeSyn db p h

/-- **the optimizer's choice among the join algorithms never changes the answer**: any two assignments `a`, `b`
    of algorithms to the join nodes of a safe logical plan give the same multiset, in every database and
    well-formed dataset view — both equal the all-nested-loop reference plan -/
theorem optimizer_choice_irrelevant (db : DB) (L : Logical) (h : safeL L = true) (a b : List JoinAlg)
    (ctx : Ctx) (hc : ctx.WF) :
    exec db (implement a L).1 ctx [[]] ~ exec db (implement b L).1 ctx [[]] ∧
    exec db (implement a L).1 ctx [[]] ~ exec db (implNl L) ctx [[]] :=
  ⟨impl_irrelevant db h (impl_implement L a) (impl_implement L b) ctx hc _ allWF_unit,
    impl_irrelevant db h (impl_implement L a) (impl_implNl L) ctx hc _ allWF_unit⟩

/-- **Whatever plan the optimizer builds, the answer is the algebra's** (fragment `okPat`): the cost model, the
    statistics and the join algorithms are the arbitrary oracle `algs` -/
theorem optimizer_sound (db : DB) (p : Pat) (h : okPat p = true) (algs : List JoinAlg) (ctx : Ctx) (hc : ctx.WF) :
    exec db (implement algs (lower .dflt p)).1 ctx [[]] ~ sem db ctx p :=
  plans_compute_algebra db p h algs ctx hc

/-! non-vacuity -/
example : okPat (.group [.bgp [(.var 0, .const "p", .var 1), (.var 1, .const "q", .var 2)],
    .union [.group [.bgp [(.var 0, .const "r", .var 3)]], .group [.graph (.var 4) (.bgp [(.var 0, .const "r", .var 3)])]],
    .graph (.named "g") (.group [.values [5] [[some "a"], [none]], .bgp [(.var 5, .var 6, .var 0)]]),
    .filter (.and (.cmp 1 ">" (.const "3")) (.not (.cmp 0 "=" (.var 2))))]) = true := by decide
example : safeL (lower .dflt (.group [.bgp [(.var 0, .const "p", .var 1), (.var 1, .const "q", .var 2)],
    .union [.group [.bgp [(.var 0, .const "r", .var 3)]], .group [.graph (.var 4) (.bgp [(.var 0, .const "r", .var 3)])]],
    .filter (.and (.cmp 1 ">" (.const "3")) (.not (.cmp 0 "=" (.var 2))))])) = true := by decide
example (db : DB) : Safe db (.bindJoin (.scan ⟨.var 0, .const "p", .var 1, .dflt⟩)
    (.union (.scan ⟨.var 0, .const "q", .var 2, .var 3⟩) (.values [1] [[some "a"], [none]]))) := by
  simp [Safe]

example : hashJoin [[(0, "a"), (1, "b")], [(1, "c")]] [[(0, "a")], [(2, "z")], [(0, "q")]] =
    [[(0, "a"), (1, "b")], [(0, "a"), (1, "b"), (2, "z")], [(0, "a"), (1, "c")], [(1, "c"), (2, "z")], [(0, "q"), (1, "c")]] := by
  decide
example : chunks 2 [1, 2, 3, 4, 5] = [[1, 2], [3, 4], [5]] := by
  rw [chunks]; simp; rw [chunks]; simp; rw [chunks]; simp

end Kolibrie.Props.C02
