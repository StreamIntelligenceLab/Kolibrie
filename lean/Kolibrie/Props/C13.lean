import Kolibrie.Lemmas.Load
import Kolibrie.Props.C14
/-
C13 — loading a document adds exactly its triples, whatever its size or prior content.
The model (Model/Load.lean) transcribes the loaders as written; `parse_n3` keeps its defect (private per-chunk
dictionaries merged with `or_insert`), so its theorem carries the forced hypotheses and the clash is a theorem too.
-/
namespace Kolibrie.Props.C13
open Kolibrie.Lines Kolibrie.Load Kolibrie.Extracted

/-! ### chunking is invisible (every positive chunk size, every document) -/

theorem chunks_flatten {α} (n : Nat) (hn : 0 < n) (l : List α) : (chunks n l).flatten = l :=
  Kolibrie.Load.chunks_flatten n hn l

theorem loadNT_unchunked (n : Nat) (hn : 0 < n) (db : DB) (doc : Str) :
    loadNT n db doc = encodeSeq db (triplesNT doc) := by
  unfold loadNT triplesNT parseChunkNT
  rw [flatMap_filterMap_flatten, Kolibrie.Load.chunks_flatten n hn, List.map_filterMap]
  rfl

/-- the result of `parse_ntriples_and_add` does not depend on how the lines are split into parallel chunks -/
theorem loadNT_chunk_free (n m : Nat) (hn : 0 < n) (hm : 0 < m) (db : DB) (doc : Str) :
    loadNT n db doc = loadNT m db doc := by
  rw [loadNT_unchunked n hn, loadNT_unchunked m hm]

/-- the instance for the chunk size found in the source -/
theorem loadNT_chunk_size_ok : 0 < chunkSizeNT := by decide

/-! ### prior quads ++ the document's triples, for every prior database (non-empty dictionaries included) -/

/-- N-Triples: lexical content after loading = before ++ the triples as written, for every document and every
    well-formed prior database (consistent dictionary, no dangling ids) -/
theorem loadNT_spec (n : Nat) (hn : 0 < n) (db : DB) (h : WellDB db) (doc : Str) :
    lex (loadNT n db doc) = lex db ++ (triplesNT doc).map some ∧ WellDB (loadNT n db doc) := by
  rw [loadNT_unchunked n hn]
  exact ⟨(encodeSeq_spec _ db h).2, (encodeSeq_spec _ db h).1⟩

theorem loadNQ_spec (db : DB) (h : WellDB db) (doc : Str) :
    lex (loadNQ db doc) = lex db ++ (parseNQ doc).map some ∧ WellDB (loadNQ db doc) :=
  ⟨(encodeSeq_spec _ db h).2, (encodeSeq_spec _ db h).1⟩

theorem loadTTL_spec (db : DB) (h : WellDB db) (doc : Str) (db' : DB) (hl : loadTTL db doc = some db') :
    ∃ r, parseTTL db.prefixes doc = some r ∧ lex db' = lex db ++ r.2.map some := by
  unfold loadTTL at hl
  cases hp : parseTTL db.prefixes doc with
  | none => simp [hp] at hl
  | some r =>
    simp only [hp, Option.map_some, Option.some.injEq] at hl
    subst hl
    exact ⟨r, rfl, (encodeSeq_spec _ db h).2⟩

/-- non-vacuity: a database with a populated dictionary (ids 0..2 taken) is `WellDB` -/
example : WellDB (encodeSeq DB.empty [⟨.plain "x".toList, .plain "y".toList, .plain "z".toList, none⟩]) :=
  (encodeSeq_spec _ _ WellDB.empty).1

/-! ### N3 as written -/

def dbXYZ : DB := encodeSeq DB.empty [⟨.plain "x".toList, .plain "y".toList, .plain "z".toList, none⟩]

/-- loading `<a> <b> <c> .` into a database that holds `x y z`: the new triple is inserted under the private ids 0 1 2,
    which the target dictionary already maps to x y z — the triple is lost (aliased to the existing one) -/
theorem loadN3_clash : ∃ (db : DB) (doc : Str), WellDB db ∧
    lex (loadN3 chunkSizeN3 db doc) ≠ lex db ++ (triplesN3 doc).map some :=
  ⟨dbXYZ, "<a> <b> <c> .".toList, (encodeSeq_spec _ _ WellDB.empty).1, by decide +kernel⟩

/-- ids also clash between chunks of one document (shown for chunk size 1; the source's size is `chunkSizeN3`, the
    1001-line witness is replayed on the code by the correspondence run) -/
theorem loadN3_chunk_clash : ∃ (n : Nat) (doc : Str), 0 < n ∧
    lex (loadN3 n DB.empty doc) ≠ (triplesN3 doc).map some :=
  ⟨1, "<a> <b> <c> .\n<d> <e> <f> .".toList, by decide, by decide +kernel⟩

/-- N3 is correct under the two forced hypotheses: empty target database, document within one chunk -/
theorem loadN3_spec_partial (n : Nat) (doc : Str) (hlen : (lines doc).length ≤ n) :
    lex (loadN3 n DB.empty doc) = (triplesN3 doc).map some := by
  unfold loadN3 triplesN3
  generalize hL : (lines doc).map trim = L
  have hLlen : L.length ≤ n := by rw [← hL]; simpa using hlen
  cases L with
  | nil => simp [chunks, chunksF, lex, DB.empty]
  | cons a L =>
    have hc : chunks n (a :: L) = [a :: L] :=
      chunksF_single n _ (a :: L) (by simp) hLlen (by simp)
    simp only [hc, List.map_cons, List.map_nil, List.foldl_cons, List.foldl_nil]
    have h1 : lex (n3Absorb DB.empty (n3Chunk (a :: L))) = lex (n3Chunk (a :: L)) := by
      simp only [lex, n3Absorb, DB.empty, List.nil_append]
      apply List.map_congr_left
      intro q _
      exact lexQuad_congr (fun i => merge_empty_decode _ i) q
    rw [h1, n3Chunk_lex]
    rfl

/- FULL:
theorem loadN3_spec (n : Nat) (hn : 0 < n) (db : DB) (h : WellDB db) (doc : Str) :
    lex (loadN3 n db doc) = lex db ++ (triplesN3 doc).map some
False for the code as written (`loadN3_clash`, `loadN3_chunk_clash`); it becomes the N-Triples argument once `parse_n3`
re-encodes each chunk's triples by lexical value. Also out of reach as written: prefixes are chunk-local. -/

example : (lines "<a> <b> <c> .\n<a> <b> \"x\" .".toList).length ≤ chunkSizeN3 := by decide +kernel

/-! ### the same triples written as N-Triples and as N-Quads load identically -/

open Kolibrie.Props.C14 in
theorem cross_format_partial (D : List PQuad) (h : ∀ q ∈ D, WellFormed q = true) (hd : ∀ q ∈ D, q.g = none)
    (db : DB) (n : Nat) (hn : 0 < n) :
    loadNT n db (genNT (D.map PQuad.toL)) = loadNQ db (genNQ (D.map PQuad.toL)) := by
  rw [loadNT_unchunked n hn]
  unfold loadNQ triplesNT
  have e1 := nt_round_trip_partial D h
  unfold parseNT at e1
  rw [e1, nq_round_trip_partial D h]
  congr 1
  have : defaultOnly D = D := List.filter_eq_self.2 fun q hq => by simp [hd q hq]
  rw [this]
  exact List.map_congr_left fun q hq => by simp [PQuad.toL, hd q hq]

/- FULL: … and as Turtle and N3.  Turtle: no reader theorem (see Props/C14); N3 keeps the quotes of literals in the stored
term (`resolve_term`), so `"x"` loaded from N3 differs from `x` loaded from N-Triples — witness below. -/

theorem cross_format_n3_clash : ∃ doc : Str, lex (loadN3 chunkSizeN3 DB.empty doc) ≠ lex (loadNT chunkSizeNT DB.empty doc) :=
  ⟨"<a:a> <b:b> \"x\" .".toList, by decide +kernel⟩

end Kolibrie.Props.C13
