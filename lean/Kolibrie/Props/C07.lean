import Kolibrie.Lemmas.SddWmc
/-!
# C07 — decision-diagram operations are exact, canonical and interruption-safe

Property theorems only (helper lemmas: `Kolibrie/Lemmas/Sdd*.lean`).
Model: `Kolibrie/Model/Sdd.lean` (the arena manager of `sdd.rs`; every operation and its `try_*` twin is one body
threaded through a checkpoint oracle and a node budget).  Specification: `Kolibrie/Spec/TruthTable.lean`
(Boolean functions as predicates over assignments, `ttWmc`, `ttGrad`).

`run x m` executes an operation on manager `m` with a fresh budget and returns `(result, manager afterwards)`;
`den m h` is the Boolean function denoted by handle `h`; `valid m h` says the handle was issued by `m`;
`MInv` is the semantic well-formedness of the manager (constants at 0/1, children precede parents, the primes of
every decision node are exclusive and exhaustive, unique table / apply cache / negate cache are sound);
`ordOk` is the (decidable) ordering discipline of the arena over the right-linear vtree (Model/Sdd.lean).
All statements hold for every `fuel`; with too little fuel the model answers `Err.fuel` (reported by the driver
as inconclusive), which is one of the error outcomes below.
-/
namespace Kolibrie.Props.C07
open Kolibrie.Sdd

/-- outcome of an operation on manager `m`: in **every** case (success, deadline expiry at whatever checkpoint,
node budget, fuel, panic) the new manager is well-formed, extends the old arena (vtree and weights untouched) and
every old handle keeps its denotation; on success the result is a valid handle satisfying `R`. -/
def Outcome (m : Mgr) (R : Id → Mgr → Prop) (out : Except Err Id × Mgr) : Prop :=
  MInv out.2 ∧ Pre m out.2 ∧ (∀ h, valid m h → ∀ σ, den out.2 h σ = den m h σ) ∧
  ∀ r, out.1 = .ok r → valid out.2 r ∧ R r out.2

theorem outcome_of_post {m : Mgr} {x : M Sdd.Id} {f : Fn} (hp : Post m (fun r m' => Sem m' r f) (x ⟨m, 0⟩)) :
    Outcome m (fun r m' => ∀ σ, den m' r σ = f σ) (run x m) := by
  obtain ⟨he, hr⟩ := hp.run
  exact ⟨he.1, he.2, fun _ hv => den_pre he.2 hv, fun r h => ⟨(hr r h).1, (hr r h).2⟩⟩

/-- **`apply` / `try_apply` are exact and interruption-safe.**  For every budget (deadline oracle — i.e. every
interruption point — and node limit; `Budget.unlimited` is the plain `apply`): a returned handle denotes
`op (den a) (den c)`; in every case, exhaustion included, the manager stays well-formed and old handles keep
their meaning. -/
theorem apply_outcome (b : Budget) (fuel : Nat) (m : Mgr) (a c : Id) (op : Op) (hm : MInv m)
    (ha : valid m a) (hc : valid m c) :
    Outcome m (fun r m' => ∀ σ, den m' r σ = Fn.op op (den m a) (den m c) σ) (run (apply b fuel a c op) m) :=
  outcome_of_post (apply_sound b fuel op (valid_sem ha) (valid_sem hc) hm 0)

/-- `apply_den` in the shape of the design: the plain `apply`. -/
theorem apply_den (fuel : Nat) (m : Mgr) (a c : Id) (op : Op) (hm : MInv m) (ha : valid m a) (hc : valid m c)
    (r : Id) (m' : Mgr) (hr : run (apply Budget.unlimited fuel a c op) m = (.ok r, m')) :
    MInv m' ∧ valid m' r ∧ (∀ σ, den m' r σ = Fn.op op (den m a) (den m c) σ) ∧
    ∀ h, valid m h → ∀ σ, den m' h σ = den m h σ :=
  (apply_sound Budget.unlimited fuel op (valid_sem ha) (valid_sem hc)).run_ok hm hr

/-- **`negate` / `try_negate`.** -/
theorem negate_outcome (b : Budget) (fuel : Nat) (m : Mgr) (a : Id) (hm : MInv m) (ha : valid m a) :
    Outcome m (fun r m' => ∀ σ, den m' r σ = !den m a σ) (run (negate b fuel a) m) :=
  outcome_of_post (negate_sound b fuel (valid_sem ha) hm 0)

theorem negate_den (fuel : Nat) (m : Mgr) (a : Id) (hm : MInv m) (ha : valid m a)
    (r : Id) (m' : Mgr) (hr : run (negate Budget.unlimited fuel a) m = (.ok r, m')) :
    MInv m' ∧ valid m' r ∧ (∀ σ, den m' r σ = !den m a σ) ∧ ∀ h, valid m h → ∀ σ, den m' h σ = den m h σ :=
  (negate_sound Budget.unlimited fuel (valid_sem ha)).run_ok hm hr

/-- **`literal` / `try_literal`.** -/
theorem literal_outcome (b : Budget) (m : Mgr) (v : Nat) (pol : Bool) (hm : MInv m) :
    Outcome m (fun r m' => ∀ σ, den m' r σ = (σ v == pol)) (run (literal b v pol) m) :=
  outcome_of_post (literal_sound b v pol hm 0)

/-- **`exactly_one` / `try_exactly_one`**: the result denotes "exactly one of the listed variables is true". -/
theorem exactly_one_outcome (b : Budget) (fuel : Nat) (m : Mgr) (vs : List Nat) (hm : MInv m) :
    Outcome m (fun r m' => ∀ σ, den m' r σ = Fn.exactlyOne vs σ) (run (exactlyOne b fuel vs) m) :=
  outcome_of_post (exactlyOne_sound b fuel vs hm 0)

theorem exactly_one_den (fuel : Nat) (m : Mgr) (vs : List Nat) (hm : MInv m)
    (r : Id) (m' : Mgr) (hr : run (exactlyOne Budget.unlimited fuel vs) m = (.ok r, m')) :
    MInv m' ∧ valid m' r ∧ (∀ σ, den m' r σ = ((vs.filter (fun v => σ v)).length == 1)) ∧
    ∀ h, valid m h → ∀ σ, den m' h σ = den m h σ :=
  (exactlyOne_sound Budget.unlimited fuel vs).run_ok hm hr

/-- **Interruption safety** (`try_safe`): whatever the deadline oracle answers at whichever checkpoint and whatever
the node budget is, if the budgeted operation reports an error the manager it leaves behind is well-formed and
every handle issued before still denotes the same function (so every later query answers as before). -/
theorem try_safe (b : Budget) (fuel : Nat) (m : Mgr) (a c : Id) (op : Op) (hm : MInv m)
    (ha : valid m a) (hc : valid m c) (e : Err) (m' : Mgr)
    (hr : run (apply b fuel a c op) m = (.error e, m')) :
    MInv m' ∧ Pre m m' ∧ ∀ h, valid m h → ∀ σ, den m' h σ = den m h σ :=
  (apply_sound b fuel op (valid_sem ha) (valid_sem hc)).run_error hm hr

theorem try_safe_negate (b : Budget) (fuel : Nat) (m : Mgr) (a : Id) (hm : MInv m) (ha : valid m a)
    (e : Err) (m' : Mgr) (hr : run (negate b fuel a) m = (.error e, m')) :
    MInv m' ∧ Pre m m' ∧ ∀ h, valid m h → ∀ σ, den m' h σ = den m h σ :=
  (negate_sound b fuel (valid_sem ha)).run_error hm hr

theorem try_safe_exactly_one (b : Budget) (fuel : Nat) (m : Mgr) (vs : List Nat) (hm : MInv m)
    (e : Err) (m' : Mgr) (hr : run (exactlyOne b fuel vs) m = (.error e, m')) :
    MInv m' ∧ Pre m m' ∧ ∀ h, valid m h → ∀ σ, den m' h σ = den m h σ :=
  (exactlyOne_sound b fuel vs).run_error hm hr

/-- **Refinement** (`try_refines`): a budgeted operation that succeeds returns a handle denoting the same function
as the handle the unbudgeted operation returns (each in the manager it produced). -/
theorem try_refines (b : Budget) (fuel fuel' : Nat) (m : Mgr) (a c : Id) (op : Op) (hm : MInv m)
    (ha : valid m a) (hc : valid m c) (r r' : Id) (m1 m2 : Mgr)
    (h1 : run (apply b fuel a c op) m = (.ok r, m1))
    (h2 : run (apply Budget.unlimited fuel' a c op) m = (.ok r', m2)) :
    ∀ σ, den m1 r σ = den m2 r' σ :=
  Sound.run_agree hm (apply_sound b fuel op (valid_sem ha) (valid_sem hc))
    (apply_sound Budget.unlimited fuel' op (valid_sem ha) (valid_sem hc)) h1 h2

/-- **Every reachable manager is (semantically) well-formed**: for every history of API calls — registrations in
any order and at any time, plain and budgeted operations with arbitrary oracles and node budgets, successful or
exhausted — the manager satisfies `MInv`.  A call outside the API contract stated at `Cmd` (a handle the manager
did not issue, an unregistered variable) leaves the manager as it is in `execCmd`. -/
theorem wf_reachable_sem (cmds : List Cmd) : MInv (cmds.foldl execCmd Mgr.new) :=
  execCmds_inv MInv_new cmds

/-- full well-formedness used by the counting theorems -/
def WF (m : Mgr) : Prop := MInv m ∧ ordOk m = true

/-- **The weighted model count is the truth-table sum** (`wmc_exact`).  `vars` is any duplicate-free list containing
the registered variables.  Hypothesis per variable: its two literal weights sum to 1 (independent Bernoulli
variables as registered by `ensure_variable`), **or** the function never holds for both values of the variable —
which is the case for every variable of an exclusive group once the function implies the group's `exactly_one`
constraint (`determined_of_exactly_one` below).  No smoothing is needed under exactly this hypothesis; the driver
reports requests outside it as `unnormalised_weights`. -/
theorem wmc_exact (m : Mgr) (hw : WF m) (h : Id) (hv : valid m h) (vars : List Nat) (hnd : vars.Nodup)
    (hreg : ∀ v p, alookup v m.var2vt = some p → v ∈ vars)
    (hyp : ∀ u ∈ vars, posOf m.posW u + negOf m.negW u = 1 ∨ Determined (den m h) u) (σ : Asg) :
    wmc m h = ttWmc (posOf m.posW) (negOf m.negW) vars σ (den m h) :=
  wmc_node_exact hw.1 hw.2 m.posW m.negW h hv m.vnodes.length vars hnd (fun v p hp _ => hreg v p hp)
    (below_top hw.2 hv) σ fun u hu => (hyp u hu).imp id fun hd τ _ => hd τ

/-- non-vacuity of `WF` (for the managers of the correspondence run see the note at `wf_reachable_partial`) -/
example : WF Mgr.new := ⟨MInv_new, by decide⟩

/-- a function that implies "exactly one of `G`" is determined in every variable of `G` -/
theorem determined_of_exactly_one (f : Fn) (G : List Nat) (hG : G.Nodup) (himp : ∀ σ, f σ = true → Fn.exactlyOne G σ = true)
    (v : Nat) (hv : v ∈ G) : Determined f v := by
  intro σ hh
  -- count the true variables of `G` with `v` first: the rest does not see the update of `v`
  have hcnt : ∀ b, (G.filter fun u => upd σ v b u).length =
      (if b then v :: (G.erase v).filter (fun u => σ u) else (G.erase v).filter (fun u => σ u)).length := fun b => by
    have hrest : (G.erase v).filter (fun u => upd σ v b u) = (G.erase v).filter (fun u => σ u) :=
      List.filter_congr fun u hu => upd_ne σ ((List.Nodup.mem_erase_iff hG).1 hu).1 b
    rw [((List.perm_cons_erase hv).filter _).length_eq, List.filter_cons, upd_same, hrest]
  have h1 := himp _ hh.1
  have h2 := himp _ hh.2
  rw [Fn.exactlyOne, beq_iff_eq, hcnt] at h1 h2
  rw [if_pos rfl, List.length_cons] at h1
  rw [if_neg Bool.false_ne_true] at h2
  omega

/-- **The gradient is the derivative of the truth-table sum** (`grad_exact`): for a listed variable `v` with
weight slots, `wmc_gradient`'s entry equals `ttGrad` (literal weights `(1, -1)` for an independent variable —
`WMC(x=1) − WMC(x=0)` —, `(1, 0)` for an exclusive-group variable), under the hypothesis of `wmc_exact` for the
other variables. -/
theorem grad_exact (m : Mgr) (hw : WF m) (h : Id) (hv : valid m h) (vars : List Nat) (hnd : vars.Nodup)
    (hreg : ∀ v p, alookup v m.var2vt = some p → v ∈ vars) (v : Nat) (hvin : v ∈ vars)
    (hvp : v < m.posW.length) (hvn : v < m.negW.length)
    (hyp : ∀ u ∈ vars, u ≠ v → posOf m.posW u + negOf m.negW u = 1 ∨ Determined (den m h) u) (σ : Asg) :
    gradVar m h v = ttGrad (posOf m.posW) (negOf m.negW) (m.kinds.getD v .indep) v vars σ (den m h) := by
  have hA : ∀ (a c : Rat), a + c = 1 → wmcW m (setW m.posW v a) (setW m.negW v c) h =
      ttWmc (fupd (posOf m.posW) v a) (fupd (negOf m.negW) v c) vars σ (den m h) := by
    intro a c hac
    have := wmc_node_exact hw.1 hw.2 (setW m.posW v a) (setW m.negW v c) h hv m.vnodes.length vars hnd
      (fun u p hp _ => hreg u p hp) (below_top hw.2 hv)
    rw [posOf_setW m.posW v a hvp, negOf_setW m.negW v c hvn] at this
    refine this σ fun u hu => ?_
    by_cases huv : u = v
    · rw [huv, fupd_same, fupd_same]; exact .inl hac
    · rw [fupd_ne _ huv, fupd_ne _ huv]; exact (hyp u hu huv).imp id fun hd τ _ => hd τ
  unfold gradVar ttGrad
  cases hk : m.kinds.getD v Kind.indep with
  | excl g => exact hA 1 0 (Rat.add_zero 1)
  | indep =>
    dsimp only
    rw [hA 1 0 (Rat.add_zero 1), hA 0 1 (Rat.zero_add 1), ttWmc_fupd _ _ hnd hvin, ttWmc_fupd _ _ hnd hvin,
      ttWmc_fupd _ _ hnd hvin, Rat.one_mul, Rat.zero_mul, Rat.zero_mul, Rat.one_mul, Rat.add_zero, Rat.zero_add,
      Rat.sub_eq_add_neg, Rat.neg_mul, Rat.one_mul]

/- FULL: `wf_reachable : ∀ cmds, WF (cmds.foldl execCmd Mgr.new)` — every reachable manager satisfies `MInv` **and**
   the ordering discipline `ordOk`.  Proved: the `MInv` half (`wf_reachable_sem` above, all histories, all oracles).
   Missing: preservation of `ordOk` by `apply` / `negate` (needs the characterisation of `is_descendant_of` /
   `find_lca` on the right-linear vtree: the chosen target node is above both operands).  Until then `ordOk` is
   *checked at run time* by the driver (`Driver/C07.lean`, `finish`, token `wf`) on the final manager of every request
   of the correspondence run that the model runs to its end and that stays inside the API contract, and `wmc_exact` /
   `grad_exact` carry it as the explicit decidable hypothesis `ordOk m`. -/
theorem wf_reachable_partial (cmds : List Cmd) :
    MInv (cmds.foldl execCmd Mgr.new) ∧ ordOk Mgr.new = true :=
  ⟨wf_reachable_sem cmds, by decide⟩

/- FULL: `canon : WF m → valid m a → valid m b → (∀ σ, den m a σ = den m b σ) → a = b` (equal functions get equal
   handles).  Not proved (needs: compressed + trimmed + unique-table completeness as invariants and their
   preservation).  Checked by the correspondence run only: every handle-producing operation reports the first
   earlier slot holding the same handle, compared with the first earlier slot having the same truth table, on the
   real manager and on the model (exhaustively for all 256×256×2 operand pairs over 3 variables in the thorough tier). -/

/-- non-vacuity: a history with two variables, a literal of each (handles 2 and 3) and their conjunction; the
manager it reaches satisfies `MInv`, the hypothesis of the operation theorems -/
def demoCmds : List Cmd :=
  [.var 0 (1/2), .var 1 (1/4), .lit Budget.unlimited 0 true, .lit Budget.unlimited 1 true,
   .app Budget.unlimited 50 2 3 .and]

example : MInv (demoCmds.foldl execCmd Mgr.new) := wf_reachable_sem demoCmds

/-- the hypotheses of the operation theorems are satisfiable already on the empty manager (the constants are
valid handles) — and by `wf_reachable_sem` on everything reachable from it -/
example : MInv Mgr.new ∧ valid Mgr.new TRUE ∧ valid Mgr.new FALSE :=
  ⟨MInv_new, valid_tt MInv_new, valid_ff MInv_new⟩

end Kolibrie.Props.C07
